import XdsVerif.Proofs.Flow
import XdsVerif.Proofs.Seq
import XdsVerif.Proofs.Stream
import XdsVerif.Properties.C01
import XdsVerif.Proofs.Sys
/-!
# C04 — stream failures: resubscribe, per-stream nonces, cache kept, clean stop

Fault operations (`authFail`, `reconnectDrain`, `publish`, `senderAdopt` with a failing `Send`,
`senderSend true`) may occur at *any* position of a history, repeatedly.
Environment assumptions, explicit in the model's enabling conditions: (E1) a stream whose `Send`
fails will fail `Recv`; (E2) the control plane answers, it does not speak first (a response of a
type is delivered on a stream only after a request of that type was sent on it).
-/
namespace XdsVerif.Properties.C04
open XdsVerif.Seq XdsVerif.Spec.Seq

theorem facts_seq : Generated.seq = Seq.expectedFacts := C01.facts_seq

/-- bridge: `sendRequest` gives up once the client has been stopped -/
theorem facts_send_aborts : Generated.sendAborts = true := by decide +kernel

/-- **per-stream nonces**: no request ever sent on a stream carries a nonce that was not issued on that same stream -/
theorem nonce_per_stream (cfg : Cfg) (ops : List Op) (s : St) (h : run cfg init ops = some s) :
    ∀ kq ∈ s.wire, kq.2.nonce = "" ∨ (kq.1, kq.2.nonce) ∈ s.issued :=
  (SInv.of_run h).j3

/-- **per-stream nonces with concurrent lookups** (`Model/Sys.lean`): lookups racing a stream failure (their `Watch`
enqueues a request at any point of the reconnect) never put a foreign nonce on a stream, in any interleaving whose
response handlers run their sections back to back -/
theorem nonce_per_stream_concurrent (cfg : Cfg) (V : Conc.Variant) (T : RType) (tn : Nat → Name)
    (ls : List Sys.Lbl) (s : Sys.St) (e : Sys.Emit) (ha : Sys.atomic ls = true)
    (h : Sys.run cfg V T tn Sys.init ls = some (s, e)) :
    ∀ kq ∈ s.seq.wire, kq.2.nonce = "" ∨ (kq.1, kq.2.nonce) ∈ s.seq.issued :=
  nonce_per_stream cfg e.seq s.seq (Sys.run_seq cfg V T tn ls Sys.init s e rfl ha h).1

/-- **resubscription**: when the sender adopts stream `k` it sends exactly one request per watched type, with the
full name set, the last accepted version, no error, and a nonce that is empty or was issued on `k` -/
theorem resubscribe_on_adopt (cfg : Cfg) (ops : List Op) (s s' : St) (order : List RType) (upto k : Nat)
    (hr : run cfg init ops = some s) (hp : s.pending = some k) (hc : s.closed = false) (hu : order.length ≤ upto)
    (hs : step cfg s (.senderAdopt order upto) = some s') :
    s'.wire = s.wire ++ order.map (fun rt => (k, mkReq s rt false)) ∧
    isPerm order (watchedTypes s) = true ∧
    (∀ rt ∈ order, (mkReq s rt false).names = (s.watched rt).getD [] ∧ (mkReq s rt false).version = s.version rt ∧
        ((mkReq s rt false).nonce = "" ∨ (k, (mkReq s rt false).nonce) ∈ s.issued)) ∧
    s'.senderStream = some k := by
  cases step_iff.mp hs with
  | adoptClosed _ hc' => cases hc.symm.trans hc'
  | adoptPartial _ _ _ hu' => omega
  | adoptAll hp' _ hperm =>
    cases hp.symm.trans hp'
    exact ⟨rfl, hperm, fun rt _ => ⟨rfl, rfl, (SInv.of_run hr).pending_nonce hp rt⟩, rfl⟩

/-- right after a reconnect the nonce of every type is empty -/
theorem reconnect_resets_nonces (cfg : Cfg) (s s' : St) (hs : step cfg s .reconnectDrain = some s') :
    (∀ rt, s'.nonce rt = "") ∧ s'.queue = [] ∧ s'.version = s.version := by
  cases step_iff.mp hs
  exact ⟨fun _ => rfl, rfl, rfl⟩

def isFault : Op → Bool
  | .authFail | .reconnectDrain | .publish | .senderAdopt _ _ | .senderSend _ => true
  | _ => false

/-- **cache kept**: stream failures and sender steps leave the cache, versions, interest and name table untouched -/
theorem cache_survives (cfg : Cfg) (s s' : St) (op : Op) (hf : isFault op = true) (hs : step cfg s op = some s') :
    s'.cache = s.cache ∧ s'.version = s.version ∧ s'.watched = s.watched ∧ s'.table = s.table ∧ s'.acc = s.acc := by
  cases step_iff.mp hs with
  | authFail | reconnectDrain | publish | adoptClosed | adoptPartial | adoptAll | sendNowhere | sendFails | send =>
    exact ⟨rfl, rfl, rfl, rfl, rfl⟩
  | pushUnknown | pushUnwatched | pushNack | pushTable | pushUpdate | subscribe | subscribeFull | touch | evict
  | evictFull => cases hf

/-- **convergence goes on**: C01's refinement holds verbatim for histories with faults at any positions -/
theorem converges_with_faults (cfg : Cfg) (ops : List Op) (s : St) (h : run cfg init ops = some s) (rt : RType) (n : Name) :
    s.cache rt n = served cfg ops.reverse rt n := C01.served_eq_fold cfg ops s h rt n

/-- ... and fault operations are not part of the fold -/
theorem faults_not_in_fold (cfg : Cfg) (op : Op) (rest : List Op) (rt : RType) (n : Name) (hf : isFault op = true) :
    served cfg (op :: rest) rt n = served cfg rest rt n := by
  cases op <;> simp only [isFault, Bool.false_eq_true] at hf <;> rfl

/-- **stop is final**: once the client has been stopped, it stays stopped and nothing more reaches the wire -/
theorem stop_is_final (cfg : Cfg) (s s' : St) (op : Op) (hc : s.closed = true) (hs : step cfg s op = some s') :
    s'.closed = true ∧ s'.wire = s.wire := by
  cases step_iff.mp hs with
  | pushUnknown _ hc' | pushUnwatched _ hc' | authFail _ hc' | reconnectDrain _ hc' | adoptPartial _ hc'
  | adoptAll _ hc' | sendFails _ hc' | send _ hc' => cases hc.symm.trans hc'
  | pushNack ha | pushTable ha | pushUpdate ha => cases hc.symm.trans ha.closed
  | subscribe | subscribeFull | touch | evict | evictFull | publish | adoptClosed | sendNowhere => exact ⟨hc, rfl⟩

/-- **lookups still return after the stop**: the subscription step of a lookup is never blocked, however
many lookups have missed before (with the regenerated fact that `sendRequest` gives up on a stopped client) -/
theorem lookup_returns_after_stop (cfg : Cfg) (s : St) (rt : RType) (n : Name)
    (hf : cfg.sendAborts = Generated.sendAborts) : ∃ s', step cfg s (.subscribe rt n) = some s' := by
  rw [facts_send_aborts] at hf
  by_cases hb : Blocked s
  · exact ⟨_, (Step.subscribeFull hb hf).step_eq⟩
  · exact ⟨_, (Step.subscribe hb).step_eq⟩

/-- **which nonce a request echoes**: the recorded nonce of a type changes only when a response of that type is handled
(to that response's nonce, accepted or rejected) or when the stream is replaced (to the empty nonce) - no other operation,
in particular no subscription change and no eviction, touches it -/
theorem nonce_frame (cfg : Cfg) (s s' : St) (op : Op) (t : RType) (hs : step cfg s op = some s') :
    s'.nonce t = s.nonce t ∨ (∃ r now, op = .push r now ∧ r.rt = t ∧ s'.nonce t = r.nonce) ∨
    (op = .reconnectDrain ∧ s'.nonce t = "") := by
  cases step_iff.mp hs with
  | pushUnknown | pushUnwatched | subscribe | subscribeFull | touch | evict | evictFull | authFail | publish
  | adoptClosed | adoptPartial | adoptAll | sendNowhere | sendFails | send => exact Or.inl rfl
  | reconnectDrain => exact Or.inr (Or.inr ⟨rfl, rfl⟩)
  | @pushNack r now | @pushTable r now | @pushUpdate r now =>
    by_cases ht : t = r.rt
    · exact Or.inr (Or.inl ⟨r, now, rfl, ht.symm, if_pos ht⟩)
    · exact Or.inl (if_neg ht)

/-- a subscription change (a lookup that misses, an eviction) enqueues a request that echoes the recorded nonce: with
`nonce_frame`, the nonce of the LATEST response of that type on the current stream - the one a control plane that follows
the protocol expects -/
theorem subscription_request_echoes_recorded_nonce (cfg : Cfg) (s s' : St) (rt : RType) (n : Name) (hq : s.closed = false)
    (hs : step cfg s (.subscribe rt n) = some s') :
    ∃ q, s'.queue = s.queue ++ [q] ∧ q.rt = rt ∧ q.nonce = s.nonce rt ∧ n ∈ q.names := by
  cases step_iff.mp hs with
  | subscribeFull hb => cases hq.symm.trans hb.1
  | subscribe => exact ⟨_, rfl, rfl, rfl, mem_watch_add ..⟩

/-- served values are unaffected by the stop: a cached resource keeps being served -/
theorem cached_served_after_stop (cfg : Cfg) (s s' : St) (hs : step cfg s .authFail = some s') : s'.cache = s.cache := by
  cases step_iff.mp hs; rfl

/-! non-vacuity: ACK on stream 1, failure, reconnect, adoption with kept version and empty nonce, ACK on stream 2 -/
example : (run C01.exCfg init
    [.subscribe .cds "c1", .senderSend false,
     .push { rt := .cds, version := "7", nonce := "n1", slots := [.good "c1" "v"] } 0, .senderSend false,
     .reconnectDrain, .publish, .senderAdopt [.cds] 5,
     .push { rt := .cds, version := "8", nonce := "n2", slots := [.good "c1" "w"] } 0, .senderSend false]).map
    (fun s => s.wire.map (fun kq => (kq.1, kq.2.nonce, kq.2.version)))
    = some [(1, "", ""), (1, "n1", "7"), (2, "", "7"), (2, "n2", "8")] := by decide +kernel

/-! ## Nonces stay on their stream, at goroutine granularity (`Model/Flow.lean`)

`nonce_per_stream` holds for atomic operations. In the code the producers of requests (`Watch` from any number of
lookups and from the cleaner, `updateAndACK` from the receiver), the sender and the reconnecting receiver are different
goroutines; what keeps an old nonce off a new stream is that *reading the nonce and handing the request to the channel* is
one `c.mu` section, and *resetting the nonces and draining the channel* is another. The request-path model tags every
request with the epoch (stream generation) in which its producer took the lock. -/

theorem facts_flow : Generated.flow = Flow.expectedFacts := by decide +kernel

/-- **every request on the wire of stream `k` was built in the epoch of stream `k`** — any number of producers, any
interleaving with the sender (including a `Send` stalled across a reconnect) and with repeated stream failures -/
theorem nonce_per_stream_goroutines {α : Type} (ls : List (Flow.Lbl α)) (s : Flow.S α)
    (h : Flow.run Generated.seq.reqCap Flow.init ls = some s) :
    (∀ p ∈ s.sentEp, p.2 = s.streamEp p.1) ∧ s.sentEp.map (·.1) = s.sent.map (·.1) :=
  ⟨Flow.wire_epoch (Flow.reachable h), (Flow.reachable h).par⟩

/-- after a reconnect has reset the nonces nothing built before it is left in the channel -/
theorem nothing_stale_queued {α : Type} (ls : List (Flow.Lbl α)) (s : Flow.S α)
    (h : Flow.run Generated.seq.reqCap Flow.init ls = some s) : ∀ e ∈ s.queueEp, e = s.epoch :=
  Flow.queue_epoch (Flow.reachable h)

/-! non-vacuity: a request is in `Send` on stream 1 (stalled) when the stream fails; lookup 1 misses during the reconnect
(its request is drained), lookup 2 after it; the in-flight request dies with its stream; on stream 2 only the request of
the new epoch appears -/
example : (Flow.run 4 (Flow.init : Flow.S Nat)
    [.pStart 0 10, .pLock 0, .pEnq 0, .sTakeReq, .stall, .rFail, .pStart 1 11, .pLock 1, .pEnq 1, .rDrain, .rPublish,
     .pStart 2 12, .pLock 2, .pEnq 2, .resume, .sSendDone, .sTakeStream, .sAdopt [], .sTakeReq, .sSendDone]).map
    (fun s => (s.sent, s.sentEp, s.streamEp 2)) = some ([(2, 12)], [(2, 1)], 1) := by decide +kernel
example : (Flow.run 4 (Flow.init : Flow.S Nat)
    [.pStart 0 10, .pLock 0, .pEnq 0, .sTakeReq, .stall, .rFail, .pStart 1 11, .pLock 1, .pEnq 1, .rDrain, .rPublish,
     .pStart 2 12, .pLock 2, .pEnq 2, .resume, .sSendDone, .sTakeStream, .sAdopt [], .sTakeReq, .sSendDone]).map
    (fun s => (s.drained, s.dropped.map (·.1))) = some ([11], [10]) := by decide +kernel

end XdsVerif.Properties.C04
