import XdsVerif.Proofs.Fqdn
import XdsVerif.Generated.Facts
/-!
# C14 — a service address is bound to the listener the name table designates

Pure part (all host spellings, all tables, all namespace/domain configurations). The binding of
the served listener over histories (`lds_binding`) is part of C01's refinement theorem, whose
LDS filter is `Fqdn.listenerName` applied to the name table current at the push.
-/
namespace XdsVerif.Properties.C14
open XdsVerif.Fqdn

/-- bridge: the literals in tryExpandFQDN / getListenerName are the ones the model was written against -/
theorem facts_fqdn : Generated.fqdn = expectedFacts := by decide +kernel

/-- already-qualified names are left unchanged -/
theorem expand_qualified_unchanged (ns dom h : Str) (hq : hasInfix svc h = true) :
    expand ns dom h = h := if_pos hq

/-- expansion is idempotent -/
theorem expand_idempotent (ns dom h : Str) : expand ns dom (expand ns dom h) = expand ns dom h := by
  rcases expand_cases ns dom h with hc | hc
  · exact expand_qualified_unchanged ns dom _ hc
  · rw [hc]; exact hc

/-- what is appended, by number of labels, for a name that is not yet qualified -/
theorem expand_shape (ns dom h : Str) (hq : hasInfix svc h = false) :
    ((splitOn '.' h).length = 1 → expand ns dom h = h ++ ['.'] ++ ns ++ svc ++ dom) ∧
    ((splitOn '.' h).length = 2 → expand ns dom h = h ++ svc ++ dom) ∧
    ((splitOn '.' h).length = 3 → (splitOn '.' h)[2]? = some "svc".toList → expand ns dom h = h ++ ['.'] ++ dom) ∧
    ((splitOn '.' h).length = 3 → (splitOn '.' h)[2]? ≠ some "svc".toList → expand ns dom h = h) ∧
    ((splitOn '.' h).length ≥ 4 → expand ns dom h = h ++ ['.'] ++ ns ++ svc ++ dom) := by
  unfold expand
  rw [if_neg (Bool.eq_false_iff.mp hq)]
  dsimp only
  refine ⟨fun hl => ?_, fun hl => ?_, fun hl h3 => ?_, fun hl h3 => ?_, fun hl => ?_⟩
  · rw [hl]; rfl
  · rw [hl]; rfl
  · rw [hl]; exact if_pos h3
  · rw [hl]; exact if_neg h3
  · generalize (splitOn '.' h).length = n at hl
    match n, hl with
    | n + 4, _ => rfl

/-- host comparison ignores case: spellings with the same lower-case form resolve identically -/
theorem resolve_case_insensitive (ns dom : Str) (t : Table) (h1 h2 : Str) (h : lower h1 = lower h2) :
    resolve ns dom t h1 = resolve ns dom t h2 := by
  unfold resolve; rw [h]

/-- the expanded (fully qualified) name is consulted first -/
theorem resolve_fqdn_first (ns dom : Str) (t : Table) (host ip : Str)
    (h : firstIp t (expand ns dom (lower host)) = some ip) : resolve ns dom t host = ip := by
  unfold resolve; rw [resolveL_eq, h]

/-- otherwise the literal host is the fall-back; nothing else is ever consulted -/
theorem resolve_literal_fallback (ns dom : Str) (t : Table) (host : Str)
    (h : firstIp t (expand ns dom (lower host)) = none) :
    resolve ns dom t host = (firstIp t (lower host)).getD [] := by
  unfold resolve; rw [resolveL_eq, h]

/-- the listener name is `<ip>_<port>`, port 80 by default -/
theorem listener_name_format (ns dom : Str) (t : Table) (r L : Str) :
    listenerName ns dom t r = some L ↔
      ∃ addr port, (splitOn ':' r = [addr] ∧ port = "80".toList ∨ splitOn ':' r = [addr, port]) ∧
        resolve ns dom t addr ≠ [] ∧ L = resolve ns dom t addr ++ "_".toList ++ port := by
  -- an address that resolves (to anything but Go's "") is bound
  have bind (cip port : Str) : (if cip.length > 0 then some (cip ++ "_".toList ++ port) else none) = some L ↔
      cip ≠ [] ∧ L = cip ++ "_".toList ++ port := by
    cases cip <;> simp [eq_comm]
  constructor
  · intro h
    unfold listenerName at h
    split at h
    · next addr hs => exact ⟨addr, _, .inl ⟨hs, rfl⟩, (bind ..).mp h⟩
    · next addr port hs => exact ⟨addr, port, .inr hs, (bind ..).mp h⟩
    · cases h
  · rintro ⟨a, p, ⟨hs, rfl⟩ | hs, h⟩
    · simp only [listenerName, hs]; exact (bind ..).mpr h
    · simp only [listenerName, hs]; exact (bind ..).mpr h

/-- hosts the table cannot resolve are never bound to any listener -/
theorem unresolvable_never_bound (ns dom : Str) (t : Table) (r : Str)
    (h : ∀ addr, addr ∈ (splitOn ':' r).head? → firstIp t (expand ns dom (lower addr)) = none ∧ firstIp t (lower addr) = none) :
    listenerName ns dom t r = none := by
  cases hl : listenerName ns dom t r with
  | none => rfl
  | some L =>
    obtain ⟨addr, port, hsp, hne, _⟩ := (listener_name_format ns dom t r L).mp hl
    have hmem : addr ∈ (splitOn ':' r).head? := by
      rcases hsp with ⟨h1, _⟩ | h1 <;> simp [h1]
    obtain ⟨h1, h2⟩ := h addr hmem
    rw [resolve_literal_fallback ns dom t addr h1, h2] at hne
    exact absurd rfl hne

/-- more than one colon is rejected -/
theorem too_many_colons (ns dom : Str) (t : Table) (r : Str) (h : (splitOn ':' r).length ≥ 3) :
    listenerName ns dom t r = none := by
  unfold listenerName
  split <;> simp_all

/-! non-vacuity (hosts of the repo's own TestTryExpandFQDN / TestResolveAddr, and a binding) -/
example : String.ofList (expand "default".toList "cluster.local".toList "echoa".toList) = "echoa.default.svc.cluster.local" := by decide +kernel
example : String.ofList (expand "default".toList "cluster.local".toList "echoa.default1".toList) = "echoa.default1.svc.cluster.local" := by decide +kernel
example : String.ofList (expand "default".toList "cluster.local".toList "echoa.default.svc".toList) = "echoa.default.svc.cluster.local" := by decide +kernel
example : String.ofList (expand "default".toList "cluster.local".toList "www.example.com".toList) = "www.example.com" := by decide +kernel
example : (listenerName "default".toList "cluster.local".toList
    [("echoa.default.svc.cluster.local".toList, ["10.0.0.1".toList])] "EchoA:8888".toList).map String.ofList
      = some "10.0.0.1_8888" := by decide +kernel

end XdsVerif.Properties.C14
