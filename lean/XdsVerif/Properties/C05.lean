import XdsVerif.Proofs.Flow
import XdsVerif.Proofs.Conc
import XdsVerif.Proofs.Sys
import XdsVerif.Generated.Facts
/-!
# C05 — a lookup returns a value of the requested kind xor an error, in bounded time
Interleaving semantics of `Get` (`Model/Conc.lean`): all schedules, any number of threads.
Wall-clock time is not in the model: "no later than the deadline plus slack" is the step bound
`deadline_bounded` (after the deadline fired the thread needs exactly one more own step, which only takes
`m.mu`); the slack itself is measured by the harness.
-/
namespace XdsVerif.Properties.C05
open XdsVerif.Conc

abbrev V : Variant := Generated.getVariant

theorem facts_get : V = expectedVariant := by decide +kernel

/-- bridge: `Get`, `getFromCache` and `notifier.notify` are, statement for statement, the bodies the interleaving model
was written against (the three shape facts only cover what their recognisers look for: a new lock-free gap, a second
lock region or a moved statement changes this fingerprint) -/
theorem facts_get_body : Generated.getFingerprint = expectedGetFingerprint := by decide +kernel

/-- bridge: an unknown kind is rejected by the first statement of `Get`, before any cache access or subscription -/
theorem facts_kind_check : Generated.kindCheckFirst = true := by decide +kernel

/-- bridge: the kinds with a type URL are the five resource kinds 1..5 (listener, route table, cluster, endpoints, name table) -/
theorem facts_kinds : Generated.knownKinds = [1, 2, 3, 4, 5] := by decide +kernel

/-- **an unknown kind is rejected**: exactly the kinds 1..5 get past the first statement of `Get`; the zero kind (the zero
value of the kind type), negative numbers and everything above the name table are rejected there, before any cache
access, notifier or subscription (`facts_kind_check`) -/
theorem unknown_kind_rejected (k : Int) : kindAccepted Generated.knownKinds k = true ↔ (1 ≤ k ∧ k ≤ 5) := by
  rw [facts_kinds]
  simp only [kindAccepted, List.any_cons, List.any_nil, Bool.or_false, Bool.or_eq_true, beq_iff_eq]
  omega

example : kindAccepted Generated.knownKinds 0 = false ∧ kindAccepted Generated.knownKinds (-1) = false ∧
    kindAccepted Generated.knownKinds 6 = false ∧ kindAccepted Generated.knownKinds 3 = true := by decide +kernel

def NoNil (s : S) : Prop := ∀ i, s.pc i ≠ .done .nilnil

theorem nonil_step {tn : Nat → Name} {s s' : S} {l : Lbl} (h : NoNil s) (hs : cstep V tn s l = some s') : NoNil s' := by
  rw [facts_get] at hs
  intro i hd
  rcases cstep_pc hs i with e | ⟨t, m⟩
  · exact h i (e ▸ hd)
  · rw [hd] at m
    cases m with
    | rereadNil _ _ hV => cases hV

/-- **result shape**: in every reachable state every finished lookup has a value or an error, never neither -/
theorem result_shape (tn : Nat → Name) (ls : List Lbl) (s : S) (h : runL V tn init ls = some s) (i : Nat) (r : Res)
    (hd : s.pc i = .done r) : (∃ v, r = .val v) ∨ r = .err := by
  have hn : NoNil s := runL_induction (fun _ => nonil_step) (show NoNil init from nofun) h
  cases r with
  | val v => exact Or.inl ⟨v, rfl⟩
  | err => exact Or.inr rfl
  | nilnil => exact absurd hd (hn i)

/-- **never a placeholder**: a value is returned only by a step that reads exactly that value from the cache
(what the cache holds is what an accepted response supplied: C01) -/
theorem value_was_served (tn : Nat → Name) (s s' : S) (l : Lbl) (i : Nat) (v : Val)
    (hnd : ∀ r, s.pc i ≠ .done r) (hs : cstep V tn s l = some s') (hd : s'.pc i = .done (.val v)) :
    s.cache (tn i) = some v ∧ (l = .getStart i ∨ l = .getRegister i ∨ l = .getReread i) := by
  rcases cstep_pc hs i with e | ⟨t, m⟩
  · exact absurd (e ▸ hd) (hnd _)
  · rw [hd] at m
    cases m with
    | startHit _ hc => exact ⟨hc, .inl rfl⟩
    | regHit _ _ hc => exact ⟨hc, .inr (.inl rfl)⟩
    | rereadHit _ hc => exact ⟨hc, .inr (.inr rfl)⟩

/-- **bounded after the deadline**: once a thread's deadline has fired it finishes with an error in exactly one
more step of its own, which is always enabled (it waits for nothing but the manager lock) -/
theorem deadline_bounded (tn : Nat → Name) (s : S) (i nf : Nat) (hp : s.pc i = .timedOut nf) :
    ∃ s', cstep V tn s (.getCleanup i) = some s' ∧ s'.pc i = .done .err := by
  simp only [cstep, hp]
  exact ⟨_, rfl, if_pos rfl⟩

/-- in any state whatever, reachable or not, an unfinished thread has an enabled step of its own -/
theorem progress (tn : Nat → Name) (s : S) (i : Nat) (hnd : ∀ r, s.pc i ≠ .done r) :
    ∃ l s', cstep V tn s l = some s' ∧ (l = .getStart i ∨ l = .getRegister i ∨ l = .getDeadline i ∨ l = .getReread i ∨ l = .getCleanup i) := by
  cases hp : s.pc i with
  | start => exact ⟨.getStart i, by cases hc : s.cache (tn i) <;> simp [cstep, hp, hc]⟩
  | missed =>
    refine ⟨.getRegister i, ?_⟩
    simp only [cstep, hp]
    split
    · simp
    · split <;> simp
  | waiting nf => exact ⟨.getDeadline i, by simp [cstep, hp]⟩
  | woken => exact ⟨.getReread i, by cases hc : s.cache (tn i) <;> simp [cstep, hp, hc]⟩
  | timedOut nf => exact ⟨.getCleanup i, by simp [cstep, hp]⟩
  | done r => exact absurd hp (hnd r)

/-- every unfinished thread always has an enabled step of its own (waiting threads: their deadline): no lookup can
be stuck in the model -/
theorem always_progress (tn : Nat → Name) (ls : List Lbl) (s : S) (h : runL V tn init ls = some s) (i : Nat)
    (hnd : ∀ r, s.pc i ≠ .done r) :
    ∃ l s', cstep V tn s l = some s' ∧ (l = .getStart i ∨ l = .getRegister i ∨ l = .getDeadline i ∨ l = .getReread i ∨ l = .getCleanup i) :=
  progress tn s i hnd

/-! ### against the real response handling (`Model/Sys.lean`: lookups × client × receiver sections) -/

/-- result shape in the composed system: every schedule — responses acknowledged, filtered and applied in separate
lock sections, the sender, reconnects, evictions and other lookups in between — every finished lookup has a value
or an error -/
theorem result_shape_sys (cfg : Seq.Cfg) (T : Seq.RType) (tn : Nat → Name) (ls : List Sys.Lbl) (s : Sys.St)
    (e : Sys.Emit) (h : Sys.run cfg V T tn Sys.init ls = some (s, e)) (i : Nat) (r : Res)
    (hd : s.conc.pc i = .done r) : (∃ v, r = .val v) ∨ r = .err :=
  result_shape tn e.conc s.conc (Sys.run_conc cfg V T tn ls Sys.init s e h) i r hd

/-- **never a placeholder, end to end**: the value a lookup returns is the content the *client's* cache holds for
that name at the step that returns it (and that content is the fold of the accepted responses: C01) -/
theorem value_is_served_content (cfg : Seq.Cfg) (T : Seq.RType) (tn : Nat → Name) (ls : List Sys.Lbl)
    (s s' : Sys.St) (e e' : Sys.Emit) (l : Sys.Lbl) (h : Sys.run cfg V T tn Sys.init ls = some (s, e))
    (i : Nat) (v : Val) (hnd : ∀ r, s.conc.pc i ≠ .done r)
    (hs : Sys.step cfg V T tn s l = some (s', e')) (hd : s'.conc.pc i = .done (.val v)) :
    s.seq.cache T (tn i) = some v := by
  have hC := Sys.coupled_run cfg V T tn ls Sys.init s e (Sys.coupled_init T) h
  rcases Sys.step_conc_one cfg V T tn s s' l e' hs with ⟨_, hsame⟩ | ⟨l', _, hl'⟩
  · exact absurd (hsame ▸ hd) (hnd _)
  · rw [← hC (tn i)]
    exact (value_was_served tn s.conc s'.conc l' i v hnd hl' hd).1

/-- S8 (kept as documentation): with the unchecked re-read a removal between the wake-up and the re-read yields neither -/
theorem s8_nilnil :
    (runL ⟨true, .lastWaiter, false⟩ (fun _ => "c") init
      [.getStart 0, .getRegister 0, .deliver true [("c", "v")], .getWake 0, .evict "c", .getReread 0]).map (fun s => s.pc 0)
    = some (.done .nilnil) := by decide +kernel

example : (runL V (fun _ => "c") init
      [.getStart 0, .getRegister 0, .deliver true [("c", "v")], .getWake 0, .evict "c", .getReread 0]).map (fun s => s.pc 0)
    = some (.done .err) := by decide +kernel

/-! ## A lookup inside `Watch` (`Model/Flow.lean`)

The lookup that creates a notifier calls `Watch` with `m.mu` held; `Watch` takes `c.mu` and waits for room in the request
channel. Bounded time therefore depends on the request path: the theorem says the only state in which a lookup inside
`Watch` can wait for ever (transport not stalled) is the S12 shape, which needs a channel filled to capacity (see C07). -/

theorem facts_flow : Generated.flow = Flow.expectedFacts := by decide +kernel

/-- **full statement** (false as it stands, see `C07.s12_deadlock_reachable`): a lookup inside `Watch` always gets out.
**Proved part**: if nothing in the client can move and the transport is not stalled, then either no lookup is inside
`Watch`, or the client is in the S12 shape -/
theorem watch_returns_partial {α : Type} (ls : List (Flow.Lbl α)) (s : Flow.S α)
    (h : Flow.run Generated.seq.reqCap Flow.init ls = some s) (hns : s.stalled = false)
    (hst : Flow.Stuck Generated.seq.reqCap s) (i : Nat) (r : α) (hp : s.pc i = .want r ∨ s.pc i = .locked r) :
    Flow.S12 Generated.seq.reqCap s := by
  rcases Flow.stuck_cases (by decide) (Flow.reachable h).inv hns hst with hq | h12
  · rcases hq.1 i with e | e <;> rcases hp with hp | hp <;> rw [hp] at e <;> cases e
  · exact h12

/-- **bounded in steps**: once the transport moves, a lookup inside `Watch` is released after at most `work` further steps
of the client (or the client is in S12): the client cannot keep itself busy for ever (no livelock) -/
theorem watch_released_in_bounded_steps {α : Type} (ls0 : List (Flow.Lbl α)) (s : Flow.S α)
    (h0 : Flow.run Generated.seq.reqCap Flow.init ls0 = some s) :
    ∃ n, ∀ (ls : List (Flow.Lbl α)) (s' : Flow.S α), (∀ l ∈ ls, l.internal = true) → Flow.run Generated.seq.reqCap s ls = some s' →
      ls.length ≤ Flow.work n s :=
  (Flow.comes_to_rest_of_run (by decide) h0).imp fun _ h ls s' hall hr => (h ls s' hall hr).1

/-- below capacity a lookup inside `Watch` is never stuck: with room in the channel its `sendRequest` completes -/
theorem watch_returns_below_capacity {α : Type} (s : Flow.S α) (i : Nat) (r : α) (hp : s.pc i = .locked r)
    (hroom : s.queue.length < Generated.seq.reqCap) : (Flow.step Generated.seq.reqCap s (.pEnq i)).isSome = true := by
  simp [Flow.step, hp, Flow.canEnq, hroom]

/-- after the client has been stopped a lookup inside `Watch` gives up at once, whatever the channel holds (S9) -/
theorem watch_returns_after_stop {α : Type} (s : Flow.S α) (i : Nat) (r : α) (hp : s.pc i = .locked r)
    (hc : s.closed = true) : (Flow.step Generated.seq.reqCap s (.pEnq i)).isSome = true := by
  simp [Flow.step, hp, Flow.canEnq, hc]

end XdsVerif.Properties.C05
