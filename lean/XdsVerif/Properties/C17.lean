import XdsVerif.Proofs.Reg
import XdsVerif.Model.Handlers
import XdsVerif.Generated.Facts
/-!
# C17 — retry policies track the route tables currently in force
For every sequence of accepted route-table updates (full or partial: route tables are a merge type).
Determinism hypothesis, where needed: Go iterates the update map in random order, so when the *same*
key is mentioned by several tables the surviving policy is not determined; the statements below are
exact in the table order chosen by the run (`mergeTables` order) and the correspondence generator
keeps cluster names distinct across tables.
-/
namespace XdsVerif.Properties.C17
open XdsVerif.Handlers

abbrev F : HandlerFacts := Generated.handlers

theorem facts_handlers : F = Handlers.expectedFacts := by decide +kernel

def run (ups : List RUp) : RetrySt := ups.foldl (retryUpdate F) retryInit

/-- the invariant: installed policies are exactly those derived from the cached tables -/
def Tracks (s : RetrySt) : Prop :=
  ∀ k, s.pol k = derive (allRoutes s.cache) k ∧ s.last k = (derive (allRoutes s.cache) k).isSome

theorem allRoutes_append (a b : List (String × RTable)) : allRoutes (a ++ b) = allRoutes a ++ allRoutes b :=
  List.flatMap_append

/-- later routes win -/
theorem derive_append (a b : List RRoute) (k : String) : derive (a ++ b) k = (derive b k).or (derive a k) := by
  simp only [derive, List.reverse_append, List.find?_append, Option.map_or]

theorem derive_eq_none {rs : List RRoute} {k : String} :
    derive rs k = none ↔ ∀ r ∈ rs, (keysOf r).contains k = false := by
  simp [derive]

theorem tracks_step (s : RetrySt) (up : RUp) (h : Tracks s) : Tracks (retryUpdate F s up) := by
  rw [facts_handlers]
  intro k
  simp only [retryUpdate, Handlers.expectedFacts, retryHandler]
  obtain ⟨h1, h2⟩ := h k
  refine ⟨?_, trivial⟩
  cases derive (allRoutes (mergeTables s.cache up)) k with
  | some p => rfl
  | none =>
    -- nothing new for `k`: what was installed goes if the previous update installed it, and otherwise there was nothing
    rw [h1, h2]
    cases derive (allRoutes s.cache) k <;> rfl

theorem run_snoc (ups : List RUp) (up : RUp) : run (ups ++ [up]) = retryUpdate F (run ups) up := by
  simp [run]

/-- **after any sequence of updates the installed retry policies are exactly those derived from the named
route tables currently cached** -/
theorem retry_tracks_cache (ups : List RUp) (k : String) :
    (run ups).pol k = derive (allRoutes (run ups).cache) k :=
  (List.foldlRecOn (motive := Tracks) ups (retryUpdate F) (b := retryInit) (fun _ => ⟨rfl, rfl⟩) (fun s h up _ => tracks_step s up h) k).1

/-- an update is merged into the cache the policies track by name -/
theorem cache_is_merge (s : RetrySt) (up : RUp) : (retryUpdate F s up).cache = mergeTables s.cache up := rfl

/-- policies of clusters no longer referenced by any cached table are removed -/
theorem unreferenced_removed (ups : List RUp) (k : String)
    (h : ∀ r ∈ allRoutes (run ups).cache, (keysOf r).contains k = false) : (run ups).pol k = none := by
  rw [retry_tracks_cache, derive_eq_none.mpr h]

/-- a table merely omitted from a partial update keeps its policies: if no table of the update mentions the key
and the tables that do are not replaced, the policy is unchanged -/
theorem partial_update_keeps (s : RetrySt) (up : RUp) (k : String) (hT : Tracks s)
    (hup : ∀ r ∈ allRoutes up, (keysOf r).contains k = false)
    (hkeep : derive (allRoutes (s.cache.filter (fun e => !(up.any (fun u => u.1 = e.1))))) k = derive (allRoutes s.cache) k) :
    (retryUpdate F s up).pol k = s.pol k := by
  rw [(tracks_step s up hT k).1, (hT k).1, cache_is_merge, mergeTables, allRoutes_append, derive_append, hkeep,
    derive_eq_none.mpr hup, Option.or_none]

/-- the policy a route installs: attempts, total duration attempts × per-try timeout (in `uint32` milliseconds),
error-rate ceiling, and back-off none / fixed at the base / random between base and maximum -/
theorem policy_shape (r : RRoute) :
    (polOf r).maxRetry = r.numRetries ∧
    (polOf r).maxDurationMs = ((r.perTryMs % W32) * (r.numRetries % W32)) % W32 ∧
    (polOf r).errRate = r.errRate ∧
    (r.backoff = none → (polOf r).backoff = .none) ∧
    (∀ b m, r.backoff = some (b, m) → m > b → (polOf r).backoff = .random (b / 1000000) (m / 1000000)) ∧
    (∀ b m, r.backoff = some (b, m) → ¬ m > b → (polOf r).backoff = .fixed (b / 1000000)) := by
  unfold polOf
  refine ⟨rfl, rfl, rfl, fun h => ?_, fun b m h hm => ?_, fun b m h hm => ?_⟩
  · rw [h]
  · rw [h]; exact if_pos hm
  · rw [h]; exact if_neg hm

/-- within the ranges Kitex accepts the duration does not wrap -/
theorem duration_no_wrap (r : RRoute) (h : r.perTryMs * r.numRetries < W32) :
    (polOf r).maxDurationMs = r.perTryMs * r.numRetries :=
  (Nat.mul_mod ..).symm.trans (Nat.mod_eq_of_lt h)

/-! non-vacuity: a partial update keeps the omitted table's policies (and would not with the update-map view) -/
def rA : RRoute := ⟨["ca"], 2, 100, "0.1", none, ["m"]⟩
def rB : RRoute := ⟨["cb"], 1, 50, "", some (10000000, 30000000), []⟩
example : ((run [[("ta", [rA]), ("tb", [rB])], [("tb", [rB])]]).pol "ca|m").map (·.maxDurationMs) = some 200 := by decide +kernel
example : ((([[("ta", [rA]), ("tb", [rB])], [("tb", [rB])]] : List RUp).foldl
    (retryUpdate { mergeView := .update, handlersFirst := true, replayOnRegister := true }) retryInit).pol "ca") = none := by decide +kernel

/-! ## A handler created while updates arrive (`Model/Reg.lean`) -/

theorem facts_registration : Generated.regShape = .atomic := by decide +kernel

/-- **a retry policies handler created at any moment tracks the latest state**: over every interleaving of accepted updates and
registrations (any number of handlers — one per client suite), every registered handler has completed for exactly the
content the cache holds; in particular a handler registered between two updates has seen the second one -/
theorem created_anytime_tracks_latest (ops : List Reg.Op) (s : Reg.S) (h : Reg.run Generated.regShape Reg.init ops = some s)
    (k v : Nat) (hk : k ∈ s.handlers) (hv : s.cache = some v) : s.applied k = some v :=
  Reg.applied_latest facts_registration ops s h k v hk hv

example : (Reg.run Generated.regShape Reg.init [.update 1, .regBegin 7, .update 2, .regBegin 8]).map
    (fun s => (s.cache, s.handlers, s.applied 7, s.applied 8)) = some (some 2, [7, 8], some 2, some 2) := by decide +kernel

/-! ## Re-delivery and empty updates -/

theorem mergeTables_nil (c : List (String × RTable)) : mergeTables c [] = c := by
  simp [mergeTables]

/-- merging the same update twice is merging it once (the control plane re-sends its state under a new version) -/
theorem mergeTables_idem (c up : List (String × RTable)) : mergeTables (mergeTables c up) up = mergeTables c up := by
  unfold mergeTables
  -- filtering again drops all of `up` (every entry of it is shadowed by itself) and nothing more of the cache
  rw [List.filter_append, List.filter_filter, List.filter_eq_nil_iff.mpr, List.nil_append]
  · simp only [Bool.and_self]
  · intro e he
    have : up.any (fun u => decide (u.1 = e.1)) = true := List.any_eq_true.mpr ⟨e, he, decide_eq_true rfl⟩
    rw [this]; exact Bool.noConfusion

/-- an update that carries no table leaves every installed policy as it was -/
theorem empty_update_keeps_policies (ups : List RUp) (k : String) :
    (run (ups ++ [[]])).pol k = (run ups).pol k := by
  rw [retry_tracks_cache, retry_tracks_cache, run_snoc, cache_is_merge, mergeTables_nil]

/-- **re-delivery of the same route tables changes no policy** -/
theorem redelivery_idempotent (ups : List RUp) (up : RUp) (k : String) :
    (run (ups ++ [up, up])).pol k = (run (ups ++ [up])).pol k := by
  rw [retry_tracks_cache, retry_tracks_cache, List.append_cons, run_snoc, run_snoc, cache_is_merge, cache_is_merge,
    mergeTables_idem]

end XdsVerif.Properties.C17
