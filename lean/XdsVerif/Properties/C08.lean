import XdsVerif.Model.Route
/-!
# C08 — route matching: first match in order; path and all header conditions hold

For every regular-expression semantics `rx`, every route table, metadata map and call.
-/
namespace XdsVerif.Properties.C08
open XdsVerif.Route

/-- declarative reading of "the route's conditions hold for the call" (HTTP route) -/
def HttpHolds (rx : String → String → Bool) (path : String) (md : Meta) (m : HTTPMatch) : Prop :=
  (if m.path ≠ "" then m.path = path else m.pfx = "/") ∧
  ∀ k c, (k, c) ∈ m.headers → ∃ v, lookup md k = some v ∧ c.holds rx v = true

theorem matchMeta_iff (rx : String → String → Bool) (hs : Headers) (md : Meta) :
    matchMeta rx hs md = true ↔ ∀ k c, (k, c) ∈ hs → ∃ v, lookup md k = some v ∧ c.holds rx v = true := by
  simp only [matchMeta, List.all_eq_true, Prod.forall]
  refine forall_congr' fun k => forall_congr' fun c => imp_congr_right fun _ => ?_
  cases lookup md k <;> simp

/-- a condition on an absent key is false -/
theorem absent_key_false (rx : String → String → Bool) (hs : Headers) (md : Meta) (k : String) (c : Matcher)
    (hm : (k, c) ∈ hs) (ha : lookup md k = none) : matchMeta rx hs md = false := by
  cases h : matchMeta rx hs md with
  | false => rfl
  | true =>
    obtain ⟨v, hv, _⟩ := (matchMeta_iff rx hs md).mp h k c hm
    rw [ha] at hv; cases hv

/-- path semantics: an exact path, or else only the catch-all prefix "/" -/
theorem path_semantics (m : HTTPMatch) (path : String) :
    httpPathOk m path = true ↔ (if m.path ≠ "" then m.path = path else m.pfx = "/") := by
  unfold httpPathOk
  by_cases h : m.path = "" <;> simp [h]

/-- an HTTP route is used only if its path condition and every header condition hold -/
theorem routeMatched_http_iff (rx : String → String → Bool) (path : String) (md : Meta) (r : Route) (m : HTTPMatch)
    (hr : r.mtch = .http m) : routeMatched rx path md r = true ↔ HttpHolds rx path md m := by
  unfold routeMatched HttpHolds
  rw [hr]
  simp only [Bool.and_eq_true, path_semantics, matchMeta_iff]

/-- the matched path is `/<package>.<service>/<method>`, or `/<service>/<method>` without a package -/
theorem call_path (inv : Invocation) :
    callPath inv = (if inv.pkg = "" then "/" ++ inv.svc ++ "/" ++ inv.method
                    else "/" ++ (inv.pkg ++ "." ++ inv.svc) ++ "/" ++ inv.method) := by
  unfold callPath
  by_cases h : inv.pkg = "" <;> simp [h]

/-- index form of "first in list order" -/
theorem find_first {α} (p : α → Bool) (l : List α) (r : α) :
    l.find? p = some r ↔ ∃ i : Nat, l[i]? = some r ∧ p r = true ∧ ∀ j : Nat, j < i → ∀ r', l[j]? = some r' → p r' = false := by
  rw [List.find?_eq_some_iff_getElem]
  constructor
  · rintro ⟨hp, i, hi, rfl, hmin⟩
    refine ⟨i, List.getElem?_eq_getElem hi, hp, fun j hj r' hr' => ?_⟩
    obtain ⟨_, rfl⟩ := List.getElem?_eq_some_iff.mp hr'
    simpa using hmin j hj
  · rintro ⟨i, hi, hp, hmin⟩
    obtain ⟨hi', rfl⟩ := List.getElem?_eq_some_iff.mp hi
    exact ⟨hp, i, hi', rfl, fun j hj => by simpa using hmin j hj _ (List.getElem?_eq_getElem (by omega))⟩

/-- all routes of a table in the order the control plane listed them: virtual hosts, then routes -/
def allRoutes (vhs : List VHost) : List Route := vhs.flatMap (·.routes)

section
variable {rx : String → String → Bool} {md : Meta} {inv : Invocation} {cfg : RouteCfg} {r : Route}

/-- the nested loops of `matchHTTPRoute` are one search through `allRoutes` -/
theorem matchHTTP_some (vhs : List VHost) (th : Option (List Route)) (mt tf : Nat) :
    matchHTTP rx md inv ⟨some vhs, th, mt, tf⟩ = (allRoutes vhs).find? (routeMatched rx (callPath inv) md) :=
  List.find?_flatMap.symm

theorem matchHTTP_matched (h : matchHTTP rx md inv cfg = some r) : routeMatched rx (callPath inv) md r = true := by
  obtain ⟨_ | vhs, th, mt, tf⟩ := cfg
  · cases h
  · exact List.find?_some (matchHTTP_some .. ▸ h)

theorem matchThrift_matched (h : matchThrift rx md inv cfg = some r) : routeMatched rx inv.toMethod md r = true := by
  obtain ⟨hc, _ | rs, mt, tf⟩ := cfg
  · cases h
  · exact List.find?_some h

/-- the last HTTP filter is found among the HTTP filters alone -/
theorem lastFilter_false_filter (fs : List Filter) :
    lastFilter false (fs.filter (fun f => !f.isThrift)) = lastFilter false fs := by
  unfold lastFilter
  rw [List.foldl_filter]
  congr; funext acc f
  cases f.isThrift <;> rfl

/-- where a returned route comes from: for a non-gRPC call the inline Thrift table of the last Thrift filter, or else
the inline or the named HTTP table of the last HTTP filter -/
theorem matchRoute_ok {l : Listener} {named : String → Option RouteCfg} {grpc : Bool}
    (h : matchRoute rx (some l) named grpc md inv = .ok r) :
    (grpc = false ∧ ∃ f cfg, lastFilter true l.filters = some f ∧ f.inline = some cfg ∧
      matchThrift rx md inv cfg = some r) ∨
    ∃ f cfg, lastFilter false l.filters = some f ∧ (f.inline = some cfg ∨ named f.routeConfigName = some cfg) ∧
      matchHTTP rx md inv cfg = some r := by
  unfold matchRoute viaThrift viaInline at h
  simp only at h
  split at h
  · next hv =>
    cases h
    split at hv
    · cases hv
    · next hg =>
      split at hv
      · next f hf =>
        split at hv
        · next cfg hi => exact .inl ⟨by simpa using hg, f, cfg, hf, hi, hv⟩
        · cases hv
      · cases hv
  · split at h
    · cases h
    · next f hf =>
      split at h
      · next hv =>
        cases h
        split at hv
        · next cfg hi => exact .inr ⟨f, cfg, hf, .inl hi, hv⟩
        · cases hv
      · split at h
        · cases h
        · next cfg hn =>
          split at h
          · next hm => cases h; exact .inr ⟨f, cfg, hf, .inr hn, hm⟩
          · cases h

end

/-- **first match**: the route used is the first, in virtual-host-then-route order, that matches -/
theorem first_match (rx : String → String → Bool) (md : Meta) (inv : Invocation) (vhs : List VHost)
    (th : Option (List Route)) (mt tf : Nat) (r : Route) :
    matchHTTP rx md inv ⟨some vhs, th, mt, tf⟩ = some r ↔
      ∃ i : Nat, (allRoutes vhs)[i]? = some r ∧ routeMatched rx (callPath inv) md r = true ∧
        ∀ j : Nat, j < i → ∀ r', (allRoutes vhs)[j]? = some r' → routeMatched rx (callPath inv) md r' = false := by
  rw [matchHTTP_some]
  exact find_first _ _ _

/-- nothing matches ⇒ no route -/
theorem no_match_none (rx : String → String → Bool) (md : Meta) (inv : Invocation) (vhs : List VHost)
    (th : Option (List Route)) (mt tf : Nat)
    (h : ∀ r ∈ allRoutes vhs, routeMatched rx (callPath inv) md r = false) :
    matchHTTP rx md inv ⟨some vhs, th, mt, tf⟩ = none := by
  rw [matchHTTP_some, List.find?_eq_none]
  intro r hr; simp [h r hr]

/-- Thrift-proxy routes: first in order whose method name and headers match -/
theorem thrift_first_match (rx : String → String → Bool) (md : Meta) (inv : Invocation) (rs : List Route)
    (hc : Option (List VHost)) (mt tf : Nat) (r : Route) :
    matchThrift rx md inv ⟨hc, some rs, mt, tf⟩ = some r ↔
      ∃ i : Nat, rs[i]? = some r ∧ routeMatched rx inv.toMethod md r = true ∧
        ∀ j : Nat, j < i → ∀ r', rs[j]? = some r' → routeMatched rx inv.toMethod md r' = false :=
  find_first _ _ _

/-- for non-gRPC calls a matching Thrift-proxy route takes precedence over HTTP routes -/
theorem thrift_before_http (rx : String → String → Bool) (l : Listener) (named : String → Option RouteCfg)
    (md : Meta) (inv : Invocation) (f : Filter) (cfg : RouteCfg) (r : Route)
    (hf : lastFilter true l.filters = some f) (hi : f.inline = some cfg)
    (hm : matchThrift rx md inv cfg = some r) :
    matchRoute rx (some l) named false md inv = .ok r := by
  unfold matchRoute viaThrift
  simp [hf, hi, hm]

/-- gRPC calls never consult Thrift-proxy routes: the result does not depend on them -/
theorem grpc_skips_thrift (rx : String → String → Bool) (l : Listener) (named : String → Option RouteCfg)
    (md : Meta) (inv : Invocation) :
    matchRoute rx (some l) named true md inv =
      matchRoute rx (some ⟨l.filters.filter (fun f => !f.isThrift)⟩) named true md inv := by
  unfold matchRoute viaThrift
  simp only [if_true, lastFilter_false_filter]

/-- an inline route table is consulted before the named one -/
theorem inline_before_named (rx : String → String → Bool) (l : Listener) (named : String → Option RouteCfg)
    (md : Meta) (inv : Invocation) (f : Filter) (cfg : RouteCfg) (r : Route)
    (hf : lastFilter false l.filters = some f) (hi : f.inline = some cfg)
    (hm : matchHTTP rx md inv cfg = some r) :
    matchRoute rx (some l) named true md inv = .ok r := by
  unfold matchRoute viaThrift viaInline
  simp [hf, hi, hm]

/-- when nothing matches the call fails with a routing error (never an arbitrary route) -/
theorem no_match_error (rx : String → String → Bool) (l : Listener) (named : String → Option RouteCfg)
    (grpc : Bool) (md : Meta) (inv : Invocation)
    (hth : ∀ f cfg, lastFilter true l.filters = some f → f.inline = some cfg → matchThrift rx md inv cfg = none)
    (hin : ∀ f cfg, lastFilter false l.filters = some f → f.inline = some cfg → matchHTTP rx md inv cfg = none)
    (hnm : ∀ f cfg, lastFilter false l.filters = some f → named f.routeConfigName = some cfg → matchHTTP rx md inv cfg = none) :
    ∃ e, matchRoute rx (some l) named grpc md inv = .error e := by
  cases h : matchRoute rx (some l) named grpc md inv with
  | error e => exact ⟨e, rfl⟩
  | ok r =>
    obtain ⟨_, f, cfg, hf, hi, hm⟩ | ⟨f, cfg, hf, hi | hn, hm⟩ := matchRoute_ok h
    · cases (hth f cfg hf hi).symm.trans hm
    · cases (hin f cfg hf hi).symm.trans hm
    · cases (hnm f cfg hf hn).symm.trans hm

/-- any route returned satisfies its own conditions (soundness of every path through `matchRoute`) -/
theorem matched_route_holds (rx : String → String → Bool) (l : Listener) (named : String → Option RouteCfg)
    (grpc : Bool) (md : Meta) (inv : Invocation) (r : Route)
    (h : matchRoute rx (some l) named grpc md inv = .ok r) :
    routeMatched rx (callPath inv) md r = true ∨ routeMatched rx inv.toMethod md r = true := by
  obtain ⟨_, _, _, _, _, hm⟩ | ⟨_, _, _, _, hm⟩ := matchRoute_ok h
  · exact .inr (matchThrift_matched hm)
  · exact .inl (matchHTTP_matched hm)

/-! non-vacuity -/
def exRoute (c : String) (m : HTTPMatch) : Route := ⟨.http m, [(c, 1)], 0⟩
example : (matchHTTP (fun _ _ => false) [("k", "v1")] ⟨"pkg", "svc", "m", "m"⟩
    ⟨some [⟨"vh", [exRoute "a" ⟨"/other", "", []⟩, exRoute "b" ⟨"", "/", [("k", .exact "v1")]⟩,
                    exRoute "c" ⟨"/pkg.svc/m", "", []⟩]⟩], none, 0, 0⟩).map (·.clusters)
    = some [("b", 1)] := by decide +kernel

end XdsVerif.Properties.C08
