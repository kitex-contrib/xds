import XdsVerif.Proofs.Reg
import XdsVerif.Proofs.Flow
import XdsVerif.Proofs.Conc
import XdsVerif.Proofs.Sys
import XdsVerif.Properties.C05
import XdsVerif.Properties.C01
import XdsVerif.Generated.Facts
/-!
# C07 — concurrent use is linearizable and deadlock-free; policy before data

What the model can carry: every atomic step of `Model/Conc.lean` is one critical section of the code, so
the cache behaves as one atomic register per name written by `deliver` / `evict`; a lookup's result is read
by one step that lies inside its interval. **Data-race freedom is a property of the Go memory model and is
not expressible in the model** (its steps are sequentially consistent); what is checked here is the locking
discipline (regenerated lock-nesting edges are acyclic; handlers run inside `m.mu` before the write);
the race detector run of the thorough tier is supporting evidence only.
-/
namespace XdsVerif.Properties.C07
open XdsVerif.Conc

abbrev V : Variant := Generated.getVariant

theorem facts_get : V = expectedVariant := C05.facts_get

theorem facts_get_body : Generated.getFingerprint = expectedGetFingerprint := C05.facts_get_body

/-- **linearization point**: a value is returned by a step of the lookup itself (so between its start and its
return) at which the cache holds exactly that value; hence no value that was never current, and none that was
already overwritten when the lookup started -/
theorem linearization_point (tn : Nat → Name) (s s' : S) (l : Lbl) (i : Nat) (v : Val)
    (hnd : ∀ r, s.pc i ≠ .done r) (hs : cstep V tn s l = some s') (hd : s'.pc i = .done (.val v)) :
    s.cache (tn i) = some v ∧ (l = .getStart i ∨ l = .getRegister i ∨ l = .getReread i) :=
  C05.value_was_served tn s s' l i v hnd hs hd

/-- the cache of a name changes only by an accepted update or an eviction: it is one atomic register -/
theorem register_semantics (tn : Nat → Name) (s s' : S) (l : Lbl) (n : Name)
    (hl : ∀ full items, l ≠ .deliver full items) (he : ∀ m, l ≠ .evict m) (hs : cstep V tn s l = some s') :
    s'.cache n = s.cache n :=
  congrFun (cstep_cache hs hl he) n

/-- an error result has a witness: the deadline fired (cleanup step), or the resource was gone at the re-read -/
theorem error_has_witness (tn : Nat → Name) (s s' : S) (l : Lbl) (i : Nat)
    (hnd : ∀ r, s.pc i ≠ .done r) (hs : cstep V tn s l = some s') (hd : s'.pc i = .done .err) :
    (l = .getCleanup i ∧ ∃ nf, s.pc i = .timedOut nf) ∨ (l = .getReread i ∧ s.cache (tn i) = none) := by
  rcases cstep_pc hs i with e | ⟨t, m⟩
  · exact absurd (e ▸ hd) (hnd _)
  · rw [hd] at m
    cases m with
    | rereadErr _ hc => exact .inr ⟨rfl, hc⟩
    | cleanupDelete hp | cleanupDetach hp | cleanupKeep hp => exact .inl ⟨rfl, _, hp⟩

/-! ### atomicity of a response against the cleaner and other lookups (`Model/Sys.lean`)

A response handler runs three lock sections: acknowledge (`c.mu`), interest filter (`c.mu.RLock`), `UpdateResource`
(`m.mu`). When they run back to back the composed system is a history of the client state machine (`Sys.run_seq`),
for which a cached name is always subscribed. -/

/-- schedules whose handlers are not torn apart: whatever lookups, sender steps, evictions and reconnects are
interleaved *between* responses, the state is one the sequential state machine reaches, hence a cached name is
subscribed -/
theorem cached_is_subscribed_atomic (cfg : Seq.Cfg) (T : Seq.RType) (tn : Nat → Name) (ls : List Sys.Lbl)
    (s : Sys.St) (e : Sys.Emit) (ha : Sys.atomic ls = true) (h : Sys.run cfg V T tn Sys.init ls = some (s, e))
    (rt : Seq.RType) (n : Name) (v : Val) (hc : s.seq.cache rt n = some v) :
    ((s.seq.watched rt).getD []).contains n = true :=
  Seq.cached_is_subscribed cfg e.seq s.seq (Sys.run_seq cfg V T tn ls Sys.init s e rfl ha h).1 rt n v hc

def ghostCfg : Seq.Cfg :=
  { sendAborts := true, metaInitNow := true, ndsRequired := false, ns := "default".toList, dom := "cluster.local".toList }
def ghostR1 : Seq.Resp := { rt := .eds, version := "1", nonce := "a", slots := [.good "e1" "v1"] }
def ghostR2 : Seq.Resp := { rt := .eds, version := "2", nonce := "b", slots := [.good "e1" "v2"] }
def ghostR3 : Seq.Resp := { rt := .eds, version := "3", nonce := "c", slots := [.good "e1" "v3"] }
/-- a lookup fetches `e1`; 31 s later the cleaner's eviction of `e1` lands between the interest filter and
`UpdateResource` of the next response; a further response follows -/
def ghostSched : List Sys.Lbl :=
  [.getStart 0 0, .getRegister 0, .op (.senderSend false),
   .op (.push ghostR1 0), .getWake 0, .getReread 0 0, .op (.senderSend false),
   .recvAck ghostR2, .recvFilter, .op (.evict .eds "e1" 31), .recvApply 31,
   .op (.senderSend false), .op (.senderSend false), .op (.push ghostR3 40), .getStart 1 41]

/-- **S15 (genuine defect, recorded as a known finding): a torn handler is not atomic against the cleaner.**
When the eviction of a name lands between the interest filter and `UpdateResource`, the update re-creates the
entry the cleaner just removed and unsubscribed: the name is cached but no longer in the interest set (a state no
sequential order of the operations reaches, by `cached_is_subscribed_atomic`), every later response is filtered
for it (`v3` never arrives), and lookups are served the stale `v2` for as long as they keep the entry alive -/
theorem s15_ghost_entry :
    (Sys.run ghostCfg V .eds (fun _ => "e1") Sys.init ghostSched).map
      (fun (s, _) => (s.seq.cache .eds "e1", s.seq.watched .eds, s.conc.pc 1))
    = some (some "v2", some [], .done (.val "v2")) := by decide +kernel

/-- the same operations with the handler's sections back to back: evicted, unsubscribed, and the next lookup
has to fetch again -/
example :
    (Sys.run ghostCfg V .eds (fun _ => "e1") Sys.init
      [.getStart 0 0, .getRegister 0, .op (.senderSend false),
       .op (.push ghostR1 0), .getWake 0, .getReread 0 0, .op (.senderSend false),
       .op (.push ghostR2 31), .op (.evict .eds "e1" 62), .getStart 1 63]).map
      (fun (s, _) => (s.seq.cache .eds "e1", s.seq.watched .eds, s.conc.pc 1))
    = some (none, some [], .missed) := by decide +kernel

/-- **linearizability against the history** (composed system, any number of lookups, handlers not torn): the value a
lookup returns is what the *fold of the accepted responses of the history performed so far* serves for its name at the
step that returns it — a point between the lookup's start and its return. So a result is never a value that was never
current, and never one that had already been replaced or removed when the returning step ran. -/
theorem linearizable_against_history (cfg : Seq.Cfg) (T : Seq.RType) (tn : Nat → Name) (ls : List Sys.Lbl)
    (s s' : Sys.St) (e e' : Sys.Emit) (l : Sys.Lbl) (ha : Sys.atomic ls = true)
    (h : Sys.run cfg V T tn Sys.init ls = some (s, e))
    (i : Nat) (v : Val) (hnd : ∀ r, s.conc.pc i ≠ .done r)
    (hs : Sys.step cfg V T tn s l = some (s', e')) (hd : s'.conc.pc i = .done (.val v)) :
    Spec.Seq.served cfg e.seq.reverse T (tn i) = some v := by
  rw [← C01.served_eq_fold_concurrent cfg V T tn ls s e ha h T (tn i)]
  exact C05.value_is_served_content cfg T tn ls s s' e e' l h i v hnd hs hd

/-- ... and an error is explained too: the lookup's deadline fired, or the fold serves nothing for the name at the
re-read (the resource was removed again after the notification) -/
theorem error_against_history (cfg : Seq.Cfg) (T : Seq.RType) (tn : Nat → Name) (ls : List Sys.Lbl)
    (s s' : Sys.St) (e e' : Sys.Emit) (l : Sys.Lbl) (ha : Sys.atomic ls = true)
    (h : Sys.run cfg V T tn Sys.init ls = some (s, e))
    (i : Nat) (hnd : ∀ r, s.conc.pc i ≠ .done r)
    (hs : Sys.step cfg V T tn s l = some (s', e')) (hd : s'.conc.pc i = .done .err) :
    (∃ nf, s.conc.pc i = .timedOut nf) ∨ Spec.Seq.served cfg e.seq.reverse T (tn i) = none := by
  have hC := Sys.coupled_run cfg V T tn ls Sys.init s e (Sys.coupled_init T) h
  rcases Sys.step_conc_one cfg V T tn s s' l e' hs with ⟨_, hsame⟩ | ⟨l', _, hl'⟩
  · exact absurd (hsame ▸ hd) (hnd _)
  · refine (error_has_witness tn s.conc s'.conc l' i hnd hl' hd).imp And.right fun hw => ?_
    rw [← C01.served_eq_fold_concurrent cfg V T tn ls s e ha h T (tn i), ← hC (tn i)]
    exact hw.2

/-- **policy before data**: inside one locked region of `UpdateResource` the registered handlers run before the
cache write that makes the resource visible (regenerated statement order), so by the time a lookup exposes a
resource every handler has completed for the update that delivered it -/
theorem policy_before_data :
    Generated.seq.updateOrder = ["lock", "handlers", "write+notify", "prune", "meta"] ∧
    Generated.handlers.handlersFirst = true := by decide +kernel

theorem facts_registration : Generated.regShape = .atomic := by decide +kernel

/-- **policy before data, over all interleavings of updates and handler registrations** (`Model/Reg.lean`, any number
of handlers, at the granularity of the manager's lock sections): what a lookup can see, every registered handler has
completed for. The registration shape is the one re-read from the source. -/
theorem policy_before_data_interleaved (ops : List Reg.Op) (s : Reg.S) (h : Reg.run Generated.regShape Reg.init ops = some s) :
    Reg.PolicyBeforeData s := by
  rw [facts_registration] at h
  exact (Reg.policy_before_data_all ops s h).1

/-- a registration split into two lock sections (either way round) breaks it: closed schedules, kept as the reason why
`facts_registration` matters -/
theorem torn_registration_breaks_it :
    (Reg.run .replayThenAppend Reg.init [.update 1, .regBegin 7, .update 2, .regEnd 7]).map (fun s => (s.cache, s.applied 7)) = some (some 2, some 1) ∧
    (Reg.run .appendThenReplay Reg.init [.update 1, .regBegin 7, .update 2, .regEnd 7]).map (fun s => (s.cache, s.applied 7)) = some (some 2, some 1) := by
  decide +kernel

/-- does the lock graph admit a cycle? (executable check: a topological peel removes every node) -/
def acyclic (edges : List (String × String)) : Bool :=
  let nodes := (edges.flatMap (fun e => [e.1, e.2])).eraseDups
  let rec peel (fuel : Nat) (rem : List String) (es : List (String × String)) : Bool :=
    match fuel with
    | 0 => rem.isEmpty
    | fuel + 1 =>
      match rem.filter (fun n => !(es.any (fun e => e.2 = n))) with
      | [] => rem.isEmpty
      | srcs => peel fuel (rem.filter (fun n => !srcs.contains n)) (es.filter (fun e => !srcs.contains e.1))
  peel (nodes.length + 1) nodes edges

/-- **lock order**: the regenerated lock-nesting edges (which lock is taken while which is held, through the
intra-package call graph) have no cycle — `m.mu → c.mu → r.mu` — so no set of goroutines can wait for each
other's mutexes -/
theorem lock_order_acyclic : acyclic Generated.lockEdges = true := by decide +kernel


/-! ### from the lock order to the absence of mutex deadlocks (any number of goroutines) -/

/-- every nesting edge of the source goes up in the rank `m.mu < c.mu < r.mu` -/
def lockRank (l : String) : Nat := if l = "m.mu" then 0 else if l = "c.mu" then 1 else if l = "r.mu" then 2 else 3

theorem lock_edges_ranked : ∀ e ∈ Generated.lockEdges, lockRank e.1 < lockRank e.2 := by decide +kernel

/-- **a lock order excludes circular waits** (general lemma: any set of locks, any number of threads). `wants t`
is the mutex thread `t` is blocked on, `holds t l` says `t` holds `l`. If every blocked thread only waits for a
mutex ranked above everything it holds (the discipline the nesting edges express), then among any non-empty finite
set of blocked threads at least one waits for a mutex that no thread of the set holds: the set cannot be a deadlock -/
theorem ordered_locks_no_circular_wait {Thread Lock : Type} (rank : Lock → Nat)
    (wants : Thread → Option Lock) (holds : Thread → Lock → Prop)
    (disc : ∀ t l l', wants t = some l → holds t l' → rank l' < rank l)
    (D : List Thread) (hne : D ≠ []) (hblocked : ∀ t ∈ D, (wants t).isSome = true) :
    ∃ t ∈ D, ∃ l, wants t = some l ∧ ∀ t' ∈ D, ¬ holds t' l := by
  -- a thread of `D` whose wanted mutex has maximal rank: whoever held that mutex would want one ranked above it
  have ht := List.maxOn_mem (f := fun t => (wants t).elim 0 rank) (h := hne)
  obtain ⟨l, hl⟩ := Option.isSome_iff_exists.mp (hblocked _ ht)
  refine ⟨_, ht, l, hl, fun t' ht' hh => ?_⟩
  obtain ⟨l', hl'⟩ := Option.isSome_iff_exists.mp (hblocked t' ht')
  have hmax := List.le_apply_maxOn_of_mem (f := fun t => (wants t).elim 0 rank) ht'
  rw [hl, hl'] at hmax
  exact Nat.lt_irrefl _ (Nat.lt_of_lt_of_le (disc t' l' l hl' hh) hmax)

/-- non-vacuity: two goroutines in the two nestings the source has (a lookup holding `m.mu` waiting for `c.mu`; the
receiver holding `c.mu` waiting for `r.mu`) satisfy the discipline; the reverse nesting would not -/
example : ∀ t l l', (fun t : Bool => if t then some "c.mu" else some "r.mu") t = some l →
    (fun (t : Bool) (l : String) => if t then l = "m.mu" else l = "c.mu") t l' → lockRank l' < lockRank l := by
  intro t l l' h1 h2
  cases t <;> simp at h1 h2 <;> subst h1 <;> subst h2 <;> decide

/-- no reachable state of the interleaving model has a stuck lookup -/
theorem no_stuck_lookup (tn : Nat → Name) (ls : List Lbl) (s : S) (h : runL V tn init ls = some s) (i : Nat)
    (hnd : ∀ r, s.pc i ≠ .done r) : ∃ l s', cstep V tn s l = some s' :=
  let ⟨l, s', h1, _⟩ := C05.always_progress tn ls s h i hnd
  ⟨l, s', h1⟩

/-! non-vacuity -/
example : acyclic [("a", "b"), ("b", "a")] = false := by decide +kernel
example : acyclic [("m.mu", "c.mu"), ("c.mu", "r.mu")] = true := by decide +kernel

/-! ## Deadlock freedom of the request path (`Model/Flow.lean`), and S12

The lock-order argument above covers mutexes. The request channel is a fourth resource: a producer waits for room in it
**while holding `c.mu`**, and the only goroutine that makes room, the sender, takes `c.mu` when it adopts a new stream. -/

theorem facts_flow : Generated.flow = Flow.expectedFacts := C05.facts_flow

/-- **full statement** (`no_deadlock`): in no reachable state is the client stuck with work under way. It is **false**
of the source as it is: `s12_deadlock_reachable`. **Proved part**: the S12 shape is the *only* way to be stuck — in every
reachable state in which the transport is not stalled, if no step of the program is enabled then the client is quiescent
or in the S12 shape (any number of producers, any capacity; here the capacity the source has) -/
theorem no_deadlock_partial {α : Type} (ls : List (Flow.Lbl α)) (s : Flow.S α)
    (h : Flow.run Generated.seq.reqCap Flow.init ls = some s) (hns : s.stalled = false)
    (hst : Flow.Stuck Generated.seq.reqCap s) : Flow.Quiescent s ∨ Flow.S12 Generated.seq.reqCap s :=
  Flow.stuck_cases (by decide) (Flow.reachable h).inv hns hst

/-- with fewer requests pending than the channel holds there is no deadlock at all -/
theorem no_deadlock_below_capacity {α : Type} (ls : List (Flow.Lbl α)) (s : Flow.S α)
    (h : Flow.run Generated.seq.reqCap Flow.init ls = some s) (hns : s.stalled = false)
    (hst : Flow.Stuck Generated.seq.reqCap s) (hroom : s.queue.length < Generated.seq.reqCap) : Flow.Quiescent s := by
  rcases no_deadlock_partial ls s h hns hst with hq | h12
  · exact hq
  · have := h12.2.1; omega

/-- **S12 (known finding)**: the S12 shape is reachable — a stream failure, a published but not yet adopted stream,
`reqCap` lookups that miss, one more that waits for room holding `c.mu`, and the sender's `select` taking the stream -/
theorem s12_deadlock_reachable :
    ∃ s : Flow.S Unit, Flow.run Generated.seq.reqCap Flow.init (Flow.s12Schedule Generated.seq.reqCap ()) = some s ∧
      Flow.S12 Generated.seq.reqCap s :=
  Flow.s12_reachable Generated.seq.reqCap ()

/-- … and it is for ever: nothing the program or its environment does (short of `close()` after an authentication
failure) leads out of it; the only step of the program still enabled is the receiver's pending hand-off -/
theorem s12_is_forever {α : Type} (s s' : Flow.S α) (l : Flow.Lbl α) (h12 : Flow.S12 Generated.seq.reqCap s)
    (hl : l ≠ .rAuthFail) (h : Flow.step Generated.seq.reqCap s l = some s') : Flow.S12 Generated.seq.reqCap s' :=
  Flow.s12_absorbing h12 hl h

theorem s12_only_handoff_runs {α : Type} (s : Flow.S α) (l : Flow.Lbl α) (h12 : Flow.S12 Generated.seq.reqCap s)
    (hi : l.internal = true) (hne : Flow.step Generated.seq.reqCap s l ≠ none) : l = .rPublish :=
  Flow.s12_only_publish h12 hi hne

/-- **no livelock, and no other deadlock**: from every reachable state, every execution of the program alone (no new
lookups, responses, failures) is finite — at most `work` steps, a measure of the requests, hand-offs and lock sections
still outstanding — and where it stops, unless the transport is stalled, the client is quiescent or in the S12 shape -/
theorem comes_to_rest_or_s12 {α : Type} (ls0 : List (Flow.Lbl α)) (s : Flow.S α)
    (h0 : Flow.run Generated.seq.reqCap Flow.init ls0 = some s) :
    ∃ n, ∀ (ls : List (Flow.Lbl α)) (s' : Flow.S α), (∀ l ∈ ls, l.internal = true) → Flow.run Generated.seq.reqCap s ls = some s' →
      ls.length ≤ Flow.work n s ∧ (s'.stalled = false → Flow.Stuck Generated.seq.reqCap s' → Flow.Quiescent s' ∨ Flow.S12 Generated.seq.reqCap s') :=
  Flow.comes_to_rest_of_run (by decide) h0

/-! non-vacuity at capacity 2: the schedule of `s12_deadlock_reachable`, then nothing but the hand-off -/
example : (Flow.run 2 (Flow.init : Flow.S Unit) (Flow.s12Schedule 2 ())).map
    (fun s => (s.spc, s.cmu, s.queue.length, s.pc 2)) = some (.adoptWait 2, some (.prod 2), 2, .locked ()) := by decide +kernel

end XdsVerif.Properties.C07
