import XdsVerif.Proofs.Conc
import XdsVerif.Proofs.Sys
import XdsVerif.Properties.C05
import XdsVerif.Generated.Facts
/-!
# C06 — no lost wake-ups: a resource accepted before the deadline is returned

All schedules of the interleaving semantics (`Model/Conc.lean`), any number of threads, any names.
The theorems are stated for the shape of `Get` that is re-read from the source (`Generated.getVariant`);
the bridge `facts_get` says it is the one with the re-check under the lock, the last-waiter cleanup and
the checked re-read.
-/
namespace XdsVerif.Properties.C06
open XdsVerif.Conc

abbrev V : Variant := Generated.getVariant

theorem facts_get : V = expectedVariant := C05.facts_get

/-- bridge: the bodies of `Get`, `getFromCache`, `notifier.notify` are the ones the model mirrors (see C05) -/
theorem facts_get_body : Generated.getFingerprint = expectedGetFingerprint := C05.facts_get_body

/-- **WaitInv** for every reachable state: a thread that waits on an open notifier is reachable from the notifier
table under its own name, and the resource it waits for is not in the cache -/
theorem wait_inv (tn : Nat → Name) (ls : List Lbl) (s : S) (h : runL V tn init ls = some s) (i nf : Nat)
    (hw : s.pc i = .waiting nf) (ho : s.closed nf = false) :
    s.notif (tn i) = some nf ∧ s.cache (tn i) = none := by
  rw [facts_get] at h
  have hI := inv_reach (inv_init tn) h
  have := hI.wait i nf hw ho
  exact ⟨this, hI.nocache _ _ this⟩

/-- **no lost wake-up**: when an accepted update carries the name a thread is waiting for, the thread's notifier
is closed by that very step: from then on its wake-up step is enabled (it does not need its deadline), and the
re-read finds the delivered content -/
theorem no_lost_wakeup (tn : Nat → Name) (ls : List Lbl) (s s' : S) (h : runL V tn init ls = some s)
    (i nf : Nat) (full : Bool) (items : List (Name × Val))
    (hw : s.pc i = .waiting nf) (ho : s.closed nf = false) (hmem : tn i ∈ items.map Prod.fst)
    (hs : cstep V tn s (.deliver full items) = some s') :
    s'.pc i = .waiting nf ∧ s'.closed nf = true ∧
    (∃ s'', cstep V tn s' (.getWake i) = some s'' ∧ s''.pc i = .woken) ∧
    s'.cache (tn i) = lookupL items (tn i) ∧ (lookupL items (tn i)).isSome = true := by
  have ⟨hn, _⟩ := wait_inv tn ls s h i nf hw ho
  cases hs
  have hcl : (s.closed nf || decide (∃ n ∈ items.map Prod.fst, s.notif n = some nf)) = true :=
    Bool.or_eq_true_iff.mpr (.inr (decide_eq_true ⟨tn i, hmem, hn⟩))
  have hsome := lookupL_isSome.mpr hmem
  obtain ⟨v, hv⟩ := Option.isSome_iff_exists.mp hsome
  exact ⟨hw, hcl, ⟨_, cstep_getWake hw hcl, if_pos rfl⟩, by simp [hv], hsome⟩

/-- an update that lands in the gap between the unlocked miss and the registration is not missed either:
the registration step re-checks the cache under the lock and returns the value -/
theorem update_before_registration (tn : Nat → Name) (s : S) (i : Nat) (v : Val)
    (hp : s.pc i = .missed) (hc : s.cache (tn i) = some v) :
    ∃ s', cstep V tn s (.getRegister i) = some s' ∧ s'.pc i = .done (.val v) := by
  rw [facts_get]
  simp only [cstep, hp, expectedVariant, if_true, hc]
  exact ⟨_, rfl, if_pos rfl⟩

/-- the woken thread returns the value that is in the cache at its re-read -/
theorem woken_returns_current (tn : Nat → Name) (s : S) (i : Nat) (v : Val)
    (hp : s.pc i = .woken) (hc : s.cache (tn i) = some v) :
    ∃ s', cstep V tn s (.getReread i) = some s' ∧ s'.pc i = .done (.val v) := by
  simp only [cstep, hp, hc]
  exact ⟨_, rfl, if_pos rfl⟩

/-- **one caller's timeout or cancellation affects only that caller**: whatever steps thread `j` takes on its
timeout path, every other waiting thread keeps its notifier registered (so a later delivery still wakes it) -/
theorem timeout_is_private (tn : Nat → Name) (ls : List Lbl) (s s1 s2 : S) (h : runL V tn init ls = some s)
    (i j nf : Nat) (hij : i ≠ j) (hw : s.pc i = .waiting nf) (ho : s.closed nf = false)
    (h1 : cstep V tn s (.getDeadline j) = some s1) (h2 : cstep V tn s1 (.getCleanup j) = some s2) :
    s2.pc i = .waiting nf ∧ s2.notif (tn i) = some nf := by
  rw [facts_get] at h h1 h2
  have hI2 := inv_step (inv_step (inv_reach (inv_init tn) h) h1) h2
  -- the sections of `j` move neither the pc of `i` nor a closed flag
  have hpc1 : s1.pc i = .waiting nf := by
    rcases cstep_pc h1 i with e | ⟨t, m⟩
    · exact e ▸ hw
    · -- a section with the label `getDeadline j` is run by `j`
      generalize s1.pc i = p at m; cases m; exact absurd rfl hij
  have hpc2 : s2.pc i = .waiting nf := by
    rcases cstep_pc h2 i with e | ⟨t, m⟩
    · exact e ▸ hpc1
    · generalize s2.pc i = p at m; cases m <;> exact absurd rfl hij
  refine ⟨hpc2, hI2.wait i nf hpc2 ?_⟩
  rw [cstep_closed h2 nofun, cstep_closed h1 nofun]
  exact ho

/-- **no lost wake-up over whole executions** (the property at full strength): take any execution in which lookup `i`
has started, is unfinished and its deadline has not fired; an accepted update then carries its name. Whatever happens
afterwards — other lookups of the same or other names arriving, timing out, being cancelled and cleaning up, further
updates, evictions of other names — as long as `i`'s own deadline does not fire and its name is not removed again: in
every later state the lookup is finished **with the value**, or has an enabled step of its own that is not its deadline
(registration returns the value; the wake-up is enabled because its notifier is closed; the re-read returns the value).
It is never parked on an open notifier and never on the timeout path. -/
theorem no_lost_wakeup_trace (tn : Nat → Name) (i : Nat) (pre post : List Lbl) (full : Bool)
    (items : List (Name × Val)) (s1 s2 s : S)
    (h1 : runL V tn init pre = some s1)
    (hstarted : s1.pc i ≠ .start) (hnt : ∀ nf, s1.pc i ≠ .timedOut nf) (hnd : ∀ r, s1.pc i ≠ .done r)
    (hmem : tn i ∈ items.map Prod.fst) (h2 : cstep V tn s1 (.deliver full items) = some s2)
    (hpost : post.all (harmless tn i) = true) (h3 : runL V tn s2 post = some s) :
    (∀ r, s.pc i = .done r → ∃ v, r = .val v) ∧
    (∀ nf, s.pc i = .waiting nf → ∃ s', cstep V tn s (.getWake i) = some s' ∧ s'.pc i = .woken) ∧
    (s.pc i = .missed → ∃ s' v, cstep V tn s (.getRegister i) = some s' ∧ s'.pc i = .done (.val v)) ∧
    (s.pc i = .woken → ∃ s' v, cstep V tn s (.getReread i) = some s' ∧ s'.pc i = .done (.val v)) ∧
    (∀ nf, s.pc i ≠ .timedOut nf) ∧ s.pc i ≠ .start := by
  rw [facts_get] at h1 h2 h3
  have hG := supplied_run (deliver_supplies (inv_reach (inv_init tn) h1) hstarted hnt hnd hmem h2) hpost h3
  obtain ⟨v, hv⟩ := Option.isSome_iff_exists.mp hG.cached
  refine ⟨fun r hr => ?_, fun nf hw => ⟨_, cstep_getWake hw (hG.woken nf hw), if_pos rfl⟩,
    fun hm => (update_before_registration tn s i v hm hv).imp fun _ h' => ⟨v, h'⟩,
    fun hw => (woken_returns_current tn s i v hw hv).imp fun _ h' => ⟨v, h'⟩, hG.noTimeout, hG.notStart⟩
  cases r with
  | val w => exact ⟨w, rfl⟩
  | err => exact absurd hr hG.noErr
  | nilnil => exact absurd hr hG.noNil

/-- non-vacuity of the trace theorem: three lookups of one name, one of them times out and cleans up after the
delivery, a later full update keeps the name, another name is evicted: the supplied lookup ends with the value -/
example : (runL V (fun j => if j = 3 then "d" else "c") init
      [.getStart 0, .getStart 1, .getRegister 0, .getRegister 1, .getStart 3, .deliver true [("c", "v"), ("d", "w")],
       .getStart 2, .getDeadline 1, .getCleanup 1, .deliver true [("c", "v2"), ("d", "w")], .evict "d",
       .getWake 0, .getReread 0]).map (fun s => (s.pc 0, s.pc 1, s.pc 2))
    = some (.done (.val "v2"), .done .err, .done (.val "v")) := by decide +kernel

/-! ### the same guarantee against the real response handling (`Model/Sys.lean`)

In the composed system a delivery is the third lock section of a response handler (`UpdateResource`), applied to
the update map the handler's interest filter produced; the lookups run against the client's own cache while
acknowledgements, the sender, other lookups' `Watch` calls and the cleaner interleave at section granularity. -/

/-- **no lost wake-up, end to end**: in any reachable state of the composed system — receiver sections torn apart
by other goroutines or not — if a lookup waits on an open notifier and the response being handled carries its name
past the interest filter, then `UpdateResource` closes the notifier in that very section, the lookup's wake-up step
is enabled, and the client's cache holds the delivered content -/
theorem sys_no_lost_wakeup (cfg : Seq.Cfg) (T : Seq.RType) (tn : Nat → Name) (ls : List Sys.Lbl) (s : Sys.St)
    (e : Sys.Emit) (h : Sys.run cfg V T tn Sys.init ls = some (s, e))
    (i nf : Nat) (hw : s.conc.pc i = .waiting nf) (ho : s.conc.closed nf = false)
    (r : Seq.Resp) (items : List (Name × Val)) (now : Nat)
    (hin : s.inflight = some { r := r, items := some items }) (hrt : r.rt = T)
    (hmem : tn i ∈ items.map Prod.fst) :
    ∃ s' e', Sys.step cfg V T tn s (.recvApply now) = some (s', e') ∧
      s'.conc.pc i = .waiting nf ∧ s'.conc.closed nf = true ∧
      (∃ s'' e'', Sys.step cfg V T tn s' (.getWake i) = some (s'', e'') ∧ s''.conc.pc i = .woken) ∧
      s'.seq.cache T (tn i) = lookupL items (tn i) ∧ (lookupL items (tn i)).isSome = true := by
  have hreach := Sys.run_conc cfg V T tn ls Sys.init s e h
  have hC := Sys.coupled_run cfg V T tn ls Sys.init s e (Sys.coupled_init T) h
  -- the third section is always enabled and is a `deliver` of the filtered map on the lookup side
  obtain ⟨c', hc'⟩ : ∃ c', Conc.cstep V tn s.conc (.deliver (Seq.isFull T) items) = some c' := ⟨_, rfl⟩
  have hstep : Sys.step cfg V T tn s (.recvApply now) =
      some ({ seq := Seq.applyUpdate s.seq r.rt (lookupL items) (if cfg.metaInitNow then some now else none),
              conc := c', inflight := none }, { conc := [.deliver (Seq.isFull T) items] }) := by
    simp only [Sys.step, Sys.doApply, hin, hrt, if_true, hc', Option.map_some]
  obtain ⟨h1, h2, ⟨c'', hw1, hw2⟩, h4, h5⟩ :=
    no_lost_wakeup tn e.conc s.conc c' hreach i nf (Seq.isFull T) items hw ho hmem hc'
  refine ⟨_, _, hstep, h1, h2, ?_, ?_, h5⟩
  · exact ⟨_, _, Sys.step_getWake cfg V T tn hw1, hw2⟩
  · exact (Sys.coupled_step cfg V T tn hC hstep (tn i)).symm.trans h4

/-! ### the shape before the repairs loses wake-ups (kept as documentation; `decide`-checked schedules) -/

/-- `Get` as it was before the repairs: no re-check under the lock, the entry deleted unconditionally, the re-read unchecked -/
def current : Variant := ⟨false, .deleteEntry, false⟩

/-- S6: two lookups of one name; the first times out and deletes the shared notifier; the delivery then creates no
wake-up for the second, which keeps waiting on a notifier that is open and unreachable while the resource is cached -/
theorem s6_lost_wakeup :
    (runL current (fun _ => "c") init
      [.getStart 0, .getStart 1, .getRegister 0, .getRegister 1, .getDeadline 0, .getCleanup 0, .deliver true [("c", "v")]]).map
      (fun s => (s.pc 1, s.closed 0, s.notif "c", s.cache "c")) = some (.waiting 0, false, none, some "v") := by
  decide +kernel

/-- S7: the delivery lands between the unlocked miss and the registration -/
theorem s7_lost_wakeup :
    (runL current (fun _ => "c") init [.getStart 0, .deliver true [("c", "v")], .getRegister 0]).map
      (fun s => (s.pc 0, s.closed 0, s.cache "c")) = some (.waiting 0, false, some "v") := by
  decide +kernel

/-- ... and the same schedules with the shape the source has now -/
example : (runL V (fun _ => "c") init
      [.getStart 0, .getStart 1, .getRegister 0, .getRegister 1, .getDeadline 0, .getCleanup 0, .deliver true [("c", "v")], .getWake 1, .getReread 1]).map
      (fun s => s.pc 1) = some (.done (.val "v")) := by decide +kernel
example : (runL V (fun _ => "c") init [.getStart 0, .deliver true [("c", "v")], .getRegister 0]).map (fun s => s.pc 0)
    = some (.done (.val "v")) := by decide +kernel

end XdsVerif.Properties.C06
