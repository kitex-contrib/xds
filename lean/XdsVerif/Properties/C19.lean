import XdsVerif.Proofs.Seq
import XdsVerif.Proofs.Sweep
import XdsVerif.Properties.C01
/-!
# C19 — idle resources are evicted and unsubscribed; used and reserved ones stay

`evict rt n now` is one firing iteration of the cleaner loop at time `now` (seconds). That the
loop visits *every* entry at every tick is the regenerated fact `cleanerShape` (two nested `range`
loops over `m.meta`) plus the correspondence runs around real ticks.
-/
namespace XdsVerif.Properties.C19
open XdsVerif.Seq XdsVerif.Spec.Seq

theorem facts_seq : Generated.seq = Seq.expectedFacts := C01.facts_seq

/-- bridge: a freshly cached entry starts its idle clock at the update (so it cannot stay forever) -/
theorem facts_meta_init : Generated.metaInitNow = true := by decide +kernel

/-- the cleaner removes an entry only if it was last looked up more than the expiry period ago and is not the
reserved inbound listener: **recently used and reserved entries are never removed** (`30` is `Seq.expire`,
`"virtualInbound"` is `Seq.reserved`) -/
theorem evict_only_expired (cfg : Cfg) (s s' : St) (rt : RType) (n : Name) (now : Nat)
    (hs : step cfg s (.evict rt n now) = some s') :
    ∃ t, s.acc rt n = some (some t) ∧ now - t > 30 ∧ ¬ (rt = .lds ∧ n = "virtualInbound") := by
  cases step_iff.mp hs with
  | evict hacc hr he | evictFull hacc hr he => exact ⟨_, hacc, he, hr⟩

theorem recent_kept (cfg : Cfg) (s : St) (rt : RType) (n : Name) (now t : Nat)
    (ha : s.acc rt n = some (some t)) (hr : now - t ≤ 30) : step cfg s (.evict rt n now) = none :=
  Option.eq_none_iff_forall_ne_some.mpr fun s' h => by
    obtain ⟨t', h1, h2, _⟩ := evict_only_expired cfg s s' rt n now h
    rw [ha] at h1; cases h1; omega

theorem reserved_kept (cfg : Cfg) (s : St) (now : Nat) : step cfg s (.evict .lds "virtualInbound" now) = none :=
  Option.eq_none_iff_forall_ne_some.mpr fun s' h =>
    (evict_only_expired cfg s s' .lds "virtualInbound" now h).elim fun _ h' => h'.2.2 ⟨rfl, rfl⟩

/-- an expired, non-reserved entry *can* be removed (the cleaner's condition is exactly this one) -/
theorem expired_evictable (cfg : Cfg) (s : St) (rt : RType) (n : Name) (now t : Nat)
    (ha : s.acc rt n = some (some t)) (he : now - t > 30) (hres : ¬ (rt = .lds ∧ n = "virtualInbound"))
    (hq : s.closed = false) : ∃ s', step cfg s (.evict rt n now) = some s' :=
  ⟨_, (Step.evict ha hres he (not_blocked hq)).step_eq⟩

/-- eviction removes the entry from the cache, withdraws the name from the interest set and enqueues one
request of that type whose names omit it -/
theorem evict_effect (cfg : Cfg) (s s' : St) (rt : RType) (n : Name) (now : Nat) (hq : s.closed = false)
    (hs : step cfg s (.evict rt n now) = some s') :
    s'.cache rt n = none ∧ s'.acc rt n = none ∧
    s'.watched rt = some (((s.watched rt).getD []).filter (· ≠ n)) ∧
    (∃ q, s'.queue = s.queue ++ [q] ∧ q.rt = rt ∧ q.names = ((s.watched rt).getD []).filter (· ≠ n) ∧ n ∉ q.names) ∧
    (∀ t m, ¬ (t = rt ∧ m = n) → s'.cache t m = s.cache t m) := by
  cases step_iff.mp hs with
  | evictFull _ _ _ hb => cases hq.symm.trans hb.1
  | evict =>
    exact ⟨if_pos ⟨rfl, rfl⟩, if_pos ⟨rfl, rfl⟩, if_pos rfl, Sweep.evicted_queue s rt n, fun t m h => if_neg h⟩

/-- looking a resource up refreshes its idle clock -/
theorem touch_refreshes (cfg : Cfg) (s s' : St) (rt : RType) (n : Name) (now : Nat) (a : Option Nat)
    (ha : s.acc rt n = some a) (hs : step cfg s (.touch rt n now) = some s') : s'.acc rt n = some (some now) := by
  cases step_iff.mp hs
  simp [ha]

/-- every newly cached entry has an idle clock (with the regenerated fact `metaInitNow`): nothing cached can
escape the cleaner for ever -/
theorem cached_has_clock (s : St) (rt : RType) (up : Name → Option Val) (now : Nat) (n : Name) (v : Val)
    (hu : up n = some v) (hn : s.acc rt n = none) :
    (applyUpdate s rt up (if Generated.metaInitNow then some now else none)).acc rt n = some (some now) := by
  rw [facts_meta_init]
  simp [applyUpdate, hu, hn]

/-- a later lookup of an evicted name subscribes again and is served the control plane's current value
(in the specification of C01: eviction is followed by subscribe and an accepted response carrying the name) -/
theorem refetch_after_evict (cfg : Cfg) (rest : List Op) (rt : RType) (n : Name) (t now : Nat) (r : Resp) (v : Val)
    (hrt : r.rt = rt) (hnds : rt ≠ .nds) (hd : r.decodes = true)
    (hc : carried cfg (.subscribe rt n :: .evict rt n t :: rest) r n = some v) :
    served cfg (.evict rt n t :: rest) rt n = none ∧
    served cfg (.push r now :: .subscribe rt n :: .evict rt n t :: rest) rt n = some v := by
  constructor
  · simp [served]
  · have ha : accepted (.subscribe rt n :: .evict rt n t :: rest) r = true := by
      simp [accepted, typeWatchedAt, hrt, hd]
    subst hrt
    simp [served, ha, hnds, hc]

/-- a name the control plane removes (a complete update without it) keeps its idle clock: it is still in the
interest set, and the cleaner - which walks the clocks, not the cache - withdraws it once it has been idle for
longer than the period (`expired_evictable`, `evict_effect`) -/
theorem dropped_keeps_clock (s : St) (rt : RType) (up : Name → Option Val) (init : Option Nat) (n : Name)
    (hu : up n = none) (hfull : isFull rt = true) :
    (applyUpdate s rt up init).cache rt n = none ∧ (applyUpdate s rt up init).acc rt n = s.acc rt n ∧
    (applyUpdate s rt up init).watched = s.watched := by
  simp [applyUpdate, hu, hfull]

/-- an update never caches a name outside the interest set: a response that was on its way when the sweep
unsubscribed a name cannot bring the entry back -/
theorem unsubscribed_update_ignored (cfg : Cfg) (s s' : St) (r : Resp) (now : Nat) (n : Name)
    (hw : n ∉ (s.watched r.rt).getD []) (hc : s.cache r.rt n = none)
    (hs : step cfg s (.push r now) = some s') : s'.cache r.rt n = none := by
  cases step_iff.mp hs with
  | pushUnwatched | pushNack | pushTable => exact hc
  | @pushUpdate _ _ ws ha =>
    have hf : filtered cfg (ack s r true s.recvStream) r n = none := by
      have hn : n ∉ ws := by simpa [ha.watched] using hw
      simp [filtered, ack_watched, ha.watched, hn]
    rw [applyUpdate_cache, if_pos rfl, hf, ack_cache, hc]; simp

/-- after an eviction, an update of that type leaves the evicted entry out of the cache -/
theorem evicted_stays_out (cfg : Cfg) (s s1 s2 : St) (rt : RType) (n : Name) (t now : Nat) (r : Resp)
    (hrt : r.rt = rt) (hq : s.closed = false) (he : step cfg s (.evict rt n t) = some s1)
    (hp : step cfg s1 (.push r now) = some s2) : s2.cache rt n = none := by
  obtain ⟨h1, _, h3, _, _⟩ := evict_effect cfg s s1 rt n t hq he
  subst hrt
  exact unsubscribed_update_ignored cfg s1 s2 r now n (by simp [h3]) h1 hp

/-! ## the whole tick, in any visiting order -/
open XdsVerif.Sweep in
/-- **one tick of the cleaner, whatever order the map iteration visits the entries in**: every visited entry that has
been idle for longer than the period (and is not the reserved listener) is removed from the cache, withdrawn from the
interest set, and a request of its type without it is enqueued; every other entry keeps its value and its subscription -/
theorem sweep_exact (cfg : Cfg) (now : Nat) (s : St) (es : List (RType × Name)) (hq : s.closed = false) :
    (∀ rt n, (rt, n) ∈ es →
        (∃ t, s.acc rt n = some (some t) ∧ now - t > 30 ∧ ¬ (rt = .lds ∧ n = "virtualInbound")) →
        (sweep cfg now s es).cache rt n = none ∧ n ∉ ((sweep cfg now s es).watched rt).getD [] ∧
        ∃ qs, (sweep cfg now s es).queue = s.queue ++ qs ∧ ∃ q ∈ qs, q.rt = rt ∧ n ∉ q.names) ∧
    (∀ rt n, ¬ (∃ t, s.acc rt n = some (some t) ∧ now - t > 30 ∧ ¬ (rt = .lds ∧ n = "virtualInbound")) →
        (sweep cfg now s es).cache rt n = s.cache rt n ∧
        (n ∈ (s.watched rt).getD [] → n ∈ ((sweep cfg now s es).watched rt).getD [])) := by
  refine ⟨fun rt n hm hex => ?_, fun rt n hne => ?_⟩
  · have hg : gone s es now rt n = true := by rw [gone, decide_eq_true hm, (expired_iff s rt n now).mpr hex]; rfl
    obtain ⟨qs, h1, h2⟩ := sweep_requests cfg now es s hq
    refine ⟨(sweep_cache cfg now es s hq rt n).trans (if_pos hg), fun hin => ?_, qs, h1, h2 rt n hg⟩
    rw [sweep_watched cfg now es s hq, List.mem_filter, hg] at hin
    exact nomatch hin.2
  · have hg : gone s es now rt n = false := by
      rw [gone, Bool.eq_false_iff.mpr fun h => hne ((expired_iff s rt n now).mp h), Bool.and_false]
    refine ⟨(sweep_cache cfg now es s hq rt n).trans (if_neg (hg ▸ nofun)), fun hin => ?_⟩
    rw [sweep_watched cfg now es s hq, List.mem_filter, hg]
    exact ⟨hin, rfl⟩

open XdsVerif.Sweep in
/-- the outcome of a tick does not depend on the iteration order of `m.meta` -/
theorem sweep_any_order (cfg : Cfg) (now : Nat) (s : St) (hq : s.closed = false)
    (es es' : List (RType × Name)) (hp : ∀ e, e ∈ es ↔ e ∈ es') :
    (∀ rt n, (sweep cfg now s es).cache rt n = (sweep cfg now s es').cache rt n) ∧
    (∀ rt, ((sweep cfg now s es).watched rt).getD [] = ((sweep cfg now s es').watched rt).getD []) :=
  (sweep_order_independent cfg now s hq es es' hp).imp_right And.right

/-! non-vacuity -/
example : ((run C01.exCfg init (C01.exOps ++ [.touch .lds "echo:8888" 100, .evict .lds "echo:8888" 131, .senderSend false])).map
    (fun s => (s.cache .lds "echo:8888", s.watched .lds, (s.wire.getLast?).map (fun kq => kq.2.names))))
    = some (none, some [], some []) := by decide +kernel
example : (run C01.exCfg init (C01.exOps ++ [.touch .lds "echo:8888" 100, .evict .lds "echo:8888" 130])).isNone = true := by decide +kernel
/-- an update naming the evicted listener arrives after the sweep: it is acknowledged and leaves the entry out -/
example : ((run C01.exCfg init (C01.exOps ++ [.touch .lds "echo:8888" 100, .evict .lds "echo:8888" 131, .senderSend false,
      .push { rt := .lds, version := "2", nonce := "c", slots := [.good "10.0.0.1_8888" "L2"] } 131])).map
    (fun s => (s.cache .lds "echo:8888", s.version .lds, s.watched .lds))) = some (none, "2", some []) := by decide +kernel
/-- a tick over two listeners and the reserved one, in two orders: the idle one goes, the fresh and the reserved one stay -/
example :
    let s := (run C01.exCfg init (C01.exOps ++ [.touch .lds "echo:8888" 100])).getD init
    ((Sweep.sweep C01.exCfg 131 s [(.lds, "virtualInbound"), (.lds, "echo:8888")]).cache .lds "echo:8888",
     (Sweep.sweep C01.exCfg 131 s [(.lds, "echo:8888"), (.lds, "virtualInbound"), (.lds, "echo:8888")]).watched .lds,
     (Sweep.sweep C01.exCfg 130 s [(.lds, "echo:8888")]).cache .lds "echo:8888")
      = (none, some [], some "L1") := by decide +kernel

end XdsVerif.Properties.C19
