import XdsVerif.Proofs.Bootstrap
import XdsVerif.Proofs.Fqdn
import XdsVerif.Generated.Facts
/-!
# C20 — node identity and bootstrap validation
For every environment and every result of the (external) JSON parser.
-/
namespace XdsVerif.Properties.C20
open XdsVerif.Bootstrap XdsVerif.Fqdn

/-- bridge: element-wise INSTANCE_IPS test, node-id format, default domain, keys, required variables -/
theorem facts_boot : Generated.boot = Bootstrap.expectedFacts := by decide +kernel

abbrev T : IpsTest := Generated.boot.ipsTest
theorem T_element : T = .element := by
  have := facts_boot; unfold T; rw [this]; rfl

/-- initialisation fails — no half-configured client — when namespace, name or IP is missing -/
theorem init_errors (e : Env) (parsed : Option JObj) :
    (e.podNamespace = "" ∨ e.podName = "" ∨ e.instanceIP = "") ↔ ∃ err, newConfig T e parsed = .error err := by
  unfold newConfig
  by_cases h1 : e.podNamespace = ""
  · simp [h1]
  by_cases h2 : e.podName = ""
  · simp [h1, h2]
  by_cases h3 : e.instanceIP = ""
  · simp [h1, h2, h3]
  · simp [h1, h2, h3]

theorem newConfig_ok {e : Env} {parsed : Option JObj} {c : Config} (h : newConfig T e parsed = .ok c) :
    e.podNamespace ≠ "" ∧ e.podName ≠ "" ∧ e.instanceIP ≠ "" := by
  have hp : ¬(e.podNamespace = "" ∨ e.podName = "" ∨ e.instanceIP = "") := fun hm => by
    obtain ⟨err, he⟩ := (init_errors e parsed).mp hm
    cases he.symm.trans h
  simpa only [not_or] using hp

/-- every request identifies the node as `sidecar~<ip>~<name>.<ns>~<ns>.svc.<domain>` -/
theorem node_id_format (e : Env) (parsed : Option JObj) (c : Config) (h : newConfig T e parsed = .ok c) :
    c.nodeId = "sidecar~" ++ e.instanceIP ++ "~" ++ e.podName ++ "." ++ e.podNamespace ++ "~" ++ e.podNamespace
                ++ ".svc." ++ (if e.domain = "" then "cluster.local" else e.domain) := by
  obtain ⟨h1, h2, h3⟩ := newConfig_ok h
  rw [newConfig, if_neg h1, if_neg h2, if_neg h3] at h
  cases h; rfl

/-- a non-empty NAMESPACE entry in the metadata overrides the pod namespace for name expansion -/
theorem namespace_override (e : Env) (parsed : Option JObj) (c : Config) (h : newConfig T e parsed = .ok c) :
    c.configNamespace =
      match lookup c.metadata "NAMESPACE" with
      | some v => if v.getString ≠ [] then String.ofList v.getString else e.podNamespace
      | none => e.podNamespace := by
  obtain ⟨h1, h2, h3⟩ := newConfig_ok h
  rw [newConfig, if_neg h1, if_neg h2, if_neg h3] at h
  cases h; rfl

/-- no metadata (or metadata that does not parse) ⇒ exactly `{ISTIO_VERSION}` -/
theorem meta_default (envs : String) (parsed : Option JObj) (v : String) (ip : Str)
    (h : envs = "" ∨ parsed = none) : parseMeta T envs parsed v ip = [("ISTIO_VERSION", .str v.toList)] := by
  unfold parseMeta
  rcases h with h | rfl
  · exact if_pos h
  · exact ite_self _

/-- what was supplied is kept: an already listed pod IP leaves the value as it was, otherwise it is appended -/
theorem instance_ips_value (envs : String) (o : JObj) (v : String) (ip : Str) (v0 : JV)
    (he : envs ≠ "") (hk : lookup o "INSTANCE_IPS" = some v0) :
    lookup (parseMeta T envs (some o) v ip) "INSTANCE_IPS" =
      some (.str (if v0.getString = [] then ip
                  else if ip ∈ splitOn ',' v0.getString then v0.getString
                  else v0.getString ++ [','] ++ ip)) := by
  unfold parseMeta
  simp only [he, if_false, hk]
  rw [lookup_set_self o _ _ v0 hk, T_element]
  simp [listed]

/-- the pod IP is an *element* of INSTANCE_IPS whenever that key is supplied -/
theorem instance_ips_member (envs : String) (o : JObj) (v : String) (ip : Str) (v0 : JV)
    (he : envs ≠ "") (hk : lookup o "INSTANCE_IPS" = some v0) (hip : ',' ∉ ip) :
    ∃ s, lookup (parseMeta T envs (some o) v ip) "INSTANCE_IPS" = some (.str s) ∧ ip ∈ splitOn ',' s := by
  refine ⟨_, instance_ips_value envs o v ip v0 he hk, ?_⟩
  split
  · rw [splitOn_no_sep ',' ip hip]; simp
  · split
    · assumption
    · rw [List.append_assoc, List.singleton_append, splitOn_append_sep, splitOn_no_sep ',' ip hip]; simp

/-- all other user-supplied keys are carried unchanged -/
theorem meta_passthrough (envs : String) (o : JObj) (v : String) (ip : Str) (k : String)
    (he : envs ≠ "") (hk : k ≠ "INSTANCE_IPS") :
    lookup (parseMeta T envs (some o) v ip) k = lookup o k := by
  unfold parseMeta
  simp only [he, if_false]
  split
  · rfl
  · exact lookup_set_other o _ k _ hk

/-- a failed construction installs nothing -/
theorem init_error_installs_nothing {M : Type} (err : BootErr) :
    init (none : Option M) (.error err) = (none, false) := rfl

/-- initialising twice keeps the first manager -/
theorem init_first_wins {M : Type} (m1 m2 : M) (cur : Option M) :
    setManager (setManager cur m1) m2 = setManager cur m1 ∧
    (init (setManager (none : Option M) m1) (.ok m2)).1 = some m1 := by
  cases cur <;> exact ⟨rfl, rfl⟩

/-- bridge: `xds.Init`, `SetXDSResourceManager` and `XDSInited` have the bodies the singleton model was written against -/
theorem facts_init : Generated.initShape = true := by decide +kernel

/-- **a failed initialisation stays failed**: as long as every attempt finds the environment incomplete, every call of
`Init` reports an error and nothing is installed — the second and the tenth call like the first -/
theorem init_failures_all_reported {M : Type} (builds : List (Except BootErr M)) (h : ∀ b ∈ builds, ∃ e, b = .error e) :
    initRun (none : Option M) builds = (none, builds.map (fun _ => false)) := by
  induction builds with
  | nil => rfl
  | cons b bs ih =>
    obtain ⟨e, he⟩ := h b (by simp)
    subst he
    have := ih (fun b hb => h b (by simp [hb]))
    simp [initRun, init, this]

/-- once a manager is installed every later call returns nil and keeps it, whatever the environment has become -/
theorem init_after_success {M : Type} (m : M) (builds : List (Except BootErr M)) :
    initRun (some m) builds = (some m, builds.map (fun _ => true)) := by
  induction builds with
  | nil => rfl
  | cons b bs ih => simp [initRun, init, ih]

/-- the first successful construction is the one installed, after any number of failed attempts -/
theorem init_first_success_wins {M : Type} (fails : List (Except BootErr M)) (h : ∀ b ∈ fails, ∃ e, b = .error e) (m : M)
    (later : List (Except BootErr M)) :
    (initRun (none : Option M) (fails ++ .ok m :: later)).1 = some m := by
  induction fails with
  | nil => simp [initRun, init, setManager, init_after_success]
  | cons b bs ih =>
    obtain ⟨e, he⟩ := h b (by simp)
    subst he
    have := ih (fun b hb => h b (by simp [hb]))
    simp only [List.cons_append, initRun, init]
    exact this

/-- **overlapping first initialisations keep one manager**: in whatever order the callers obtain the holder's lock, what
is installed after each of them - hence what any caller sees once its own call has returned, and what is installed in
the end - is the manager of the caller that came first -/
theorem set_overlapping_one_winner {M : Type} (m : M) (ms : List M) :
    ∀ x ∈ setRun (none : Option M) (m :: ms), x = some m := by
  suffices ∀ (cur : Option M) m ms, ∀ x ∈ setRun cur (m :: ms), x = setManager cur m from this none m ms
  intro cur m ms
  induction ms generalizing cur m with
  | nil => simp [setRun]
  | cons m' ms ih =>
    intro x hx
    rw [setRun, List.mem_cons] at hx
    rcases hx with rfl | hx
    · rfl
    · rw [ih _ m' x hx]; exact (init_first_wins m m' cur).1

example : setRun (none : Option Nat) [3, 1, 2] = [some 3, some 3, some 3] := by decide +kernel

example : initRun (none : Option Nat) [.error .noName, .error .noNamespace, .ok 7, .error .noIP, .ok 9] = (some 7, [false, false, true, true, true]) := by decide +kernel

/-! non-vacuity: the prefix case that separates element from substring membership -/
example : (lookup (parseMeta T "x" (some [("INSTANCE_IPS", .str "10.0.0.10".toList)]) "1.0" "10.0.0.1".toList) "INSTANCE_IPS")
    = some (.str "10.0.0.10,10.0.0.1".toList) := by decide +kernel
example : (newConfig T ⟨"ns", "pod", "1.2.3.4", "", "", ""⟩ none).toOption.map (·.nodeId)
    = some "sidecar~1.2.3.4~pod.ns~ns.svc.cluster.local" := by decide +kernel

end XdsVerif.Properties.C20
