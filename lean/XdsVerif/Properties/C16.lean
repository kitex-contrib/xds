import XdsVerif.Proofs.Reg
import XdsVerif.Model.Handlers
import XdsVerif.Generated.Facts
/-!
# C16 — circuit-breaker configuration tracks the latest cluster state
For every sequence of accepted cluster updates (the maps `UpdateResource` hands to the handler; clusters
are a full type, so each map is the whole accepted set) and every destination name.
-/
namespace XdsVerif.Properties.C16
open XdsVerif.Handlers

/-- bridge: handlers run before the cache write, and registration replays the cached map of the type -/
theorem facts_handlers : Generated.handlers.handlersFirst = true ∧ Generated.handlers.replayOnRegister = true := by decide +kernel

/-- is the destination configured by this update (outlier detection present)? -/
def conf (u : CUp) (c : String) : Bool := match u c with | some (some _) => true | _ => false

/-- what one update says about a destination it configures -/
def latestCfg (u : CUp) (c : String) : Option CbCfg :=
  match u c with
  | some (some (thr, vol)) => if thr ≠ 0 ∧ vol ≠ 0 then some ⟨true, thr, vol⟩ else some ⟨false, 0, 0⟩
  | _ => none

/-- the specification, most recent update first: the latest update alone decides; a destination configured by an
earlier update and not by the latest is disabled; a destination never configured has no entry -/
def specCb : List CUp → String → Option CbCfg
  | [], _ => none
  | u :: rest, c =>
    match latestCfg u c with
    | some x => some x
    | none => if rest.any (conf · c) then some ⟨false, 0, 0⟩ else none

def run (us : List CUp) : CbSt := us.foldl cbApply cbInit

theorem cbPolicy_eq (u : CUp) (c : String) : cbPolicy u c = latestCfg u c := by
  unfold cbPolicy latestCfg cbDisabled
  rcases u c with _ | _ | ⟨t, v⟩ <;> simp only [and_comm]

theorem latestCfg_isSome (u : CUp) (c : String) : (latestCfg u c).isSome = conf u c := by
  unfold latestCfg conf
  rcases u c with _ | _ | ⟨t, v⟩
  · rfl
  · rfl
  · simp only; split <;> rfl

theorem latestCfg_eq_none {u : CUp} {c : String} : latestCfg u c = none ↔ conf u c = false := by
  rw [← latestCfg_isSome]; cases latestCfg u c <;> simp

/-- one update, in the terms of the specification -/
theorem cbApply_cfg (s : CbSt) (u : CUp) (c : String) :
    (cbApply s u).cfg c = match latestCfg u c with
      | some x => some x
      | none => if s.last c then some ⟨false, 0, 0⟩ else s.cfg c := by
  simp only [cbApply, cbPolicy_eq]; rfl

theorem cbApply_last (s : CbSt) (u : CUp) (c : String) : (cbApply s u).last c = conf u c := by
  simp only [cbApply, cbPolicy_eq, latestCfg_isSome]

/-- **the configuration after any sequence of updates is the one derived from the latest update alone** -/
theorem cb_latest (us : List CUp) (c : String) : (run us).cfg c = specCb us.reverse c := by
  rw [run, List.foldl_eq_foldr_reverse]
  induction us.reverse with
  | nil => rfl
  | cons u rest ih =>
    rw [List.foldr_cons, cbApply_cfg, ih, specCb]
    cases latestCfg u c with
    | some x => rfl
    | none =>
      -- of the earlier updates the handler remembers only whether the previous one configured `c`
      cases rest with
      | nil => rfl
      | cons w rest' =>
        rw [List.foldr_cons, cbApply_last, List.any_cons]
        cases hw : conf w c with
        | true => rfl
        | false => simp [specCb, latestCfg_eq_none.mpr hw]

/-- after a non-empty sequence: the last update decides, the earlier ones matter only through whether any configured `c` -/
theorem run_snoc (us : List CUp) (u : CUp) (c : String) :
    (run (us ++ [u])).cfg c = match latestCfg u c with
      | some x => some x
      | none => if us.any (conf · c) then some ⟨false, 0, 0⟩ else none := by
  rw [cb_latest, List.reverse_append, List.reverse_singleton, List.singleton_append, specCb, List.any_reverse]

/-- both fields non-zero ⇒ enabled with error rate threshold/100 and minimum sample = volume -/
theorem enabled_case (us : List CUp) (u : CUp) (c : String) (t v : Nat)
    (hu : u c = some (some (t, v))) (ht : t ≠ 0) (hv : v ≠ 0) :
    (run (us ++ [u])).cfg c = some ⟨true, t, v⟩ := by
  simp [run_snoc, latestCfg, hu, ht, hv]

/-- a zero in either field ⇒ disabled -/
theorem zero_disables (us : List CUp) (u : CUp) (c : String) (t v : Nat)
    (hu : u c = some (some (t, v))) (hz : t = 0 ∨ v = 0) :
    (run (us ++ [u])).cfg c = some ⟨false, 0, 0⟩ := by
  have : ¬ (t ≠ 0 ∧ v ≠ 0) := by rcases hz with h | h <;> simp [h]
  simp [run_snoc, latestCfg, hu, this]

/-- a destination an earlier update configured and the latest does not ⇒ disabled -/
theorem leftover_disabled (us : List CUp) (u : CUp) (c : String)
    (hu : u c = none ∨ u c = some none)
    (he : ∃ w ∈ us, ∃ o, w c = some (some o)) :
    (run (us ++ [u])).cfg c = some ⟨false, 0, 0⟩ := by
  obtain ⟨w, hw, o, ho⟩ := he
  have hany : us.any (conf · c) = true := List.any_eq_true.mpr ⟨w, hw, by simp [conf, ho]⟩
  rcases hu with h | h <;> simp [run_snoc, latestCfg, h, hany]

/-- a breaker created after updates were received starts from the current state: registration replays the
cached cluster map (fact `replayOnRegister`), which for a full type is the latest update -/
theorem late_registration (u : CUp) (c : String) : (cbApply cbInit u).cfg c = latestCfg u c := by
  rw [cbApply_cfg]
  cases latestCfg u c <;> rfl

/-! non-vacuity -/
def exU (l : List (String × Option (Nat × Nat))) : CUp := fun k => (l.find? (fun e => e.1 = k)).map (·.2)
example : ((run [exU [("a", some (50, 10)), ("b", some (0, 5))], exU [("b", some (20, 5))]]).cfg "a",
           (run [exU [("a", some (50, 10)), ("b", some (0, 5))], exU [("b", some (20, 5))]]).cfg "b")
    = (some ⟨false, 0, 0⟩, some ⟨true, 20, 5⟩) := by decide +kernel

/-! ## A handler created while updates arrive (`Model/Reg.lean`) -/

theorem facts_registration : Generated.regShape = .atomic := by decide +kernel

/-- **a circuit-breaker configuration handler created at any moment tracks the latest state**: over every interleaving of accepted updates and
registrations (any number of handlers — one per client suite), every registered handler has completed for exactly the
content the cache holds; in particular a handler registered between two updates has seen the second one -/
theorem created_anytime_tracks_latest (ops : List Reg.Op) (s : Reg.S) (h : Reg.run Generated.regShape Reg.init ops = some s)
    (k v : Nat) (hk : k ∈ s.handlers) (hv : s.cache = some v) : s.applied k = some v :=
  Reg.applied_latest facts_registration ops s h k v hk hv

example : (Reg.run Generated.regShape Reg.init [.update 1, .regBegin 7, .update 2, .regBegin 8]).map
    (fun s => (s.cache, s.handlers, s.applied 7, s.applied 8)) = some (some 2, [7, 8], some 2, some 2) := by decide +kernel

/-! ## Consequences of `cb_latest` for whole histories -/

/-- a destination no update ever configured has no entry at all (the suite's default applies) -/
theorem never_configured_no_entry (us : List CUp) (c : String) (h : ∀ u ∈ us, conf u c = false) :
    (run us).cfg c = none := by
  rcases List.eq_nil_or_concat us with rfl | ⟨us, u, rfl⟩
  · rfl
  · rw [List.concat_eq_append] at h ⊢
    have hany : us.any (conf · c) = false :=
      List.any_eq_false.mpr fun w hw => by simp [h w (List.mem_append_left _ hw)]
    simp [run_snoc, latestCfg_eq_none.mpr (h u (by simp)), hany]

/-- the history before the latest update is irrelevant for every destination the latest update configures:
two clients with different pasts that receive the same cluster set agree on it -/
theorem past_irrelevant_when_configured (us vs : List CUp) (u : CUp) (c : String) (h : conf u c = true) :
    (run (us ++ [u])).cfg c = (run (vs ++ [u])).cfg c := by
  rw [run_snoc, run_snoc]
  cases hx : latestCfg u c with
  | none => rw [latestCfg_eq_none.mp hx] at h; cases h
  | some x => rfl

/-- re-delivery of the same cluster set (the control plane re-sends its state under a new version) changes nothing -/
theorem redelivery_idempotent (us : List CUp) (u : CUp) (c : String) :
    (run (us ++ [u, u])).cfg c = (run (us ++ [u])).cfg c := by
  rw [List.append_cons, run_snoc, run_snoc]
  cases hx : latestCfg u c with
  | some x => rfl
  | none => simp [latestCfg_eq_none.mp hx]

/-- removal followed by re-addition: the re-added destination carries the values of the re-addition, whatever it had before -/
theorem readded_takes_new_values (us : List CUp) (u0 u1 u2 : CUp) (c : String) (t v : Nat)
    (_h0 : conf u0 c = true) (_h1 : conf u1 c = false) (h2 : u2 c = some (some (t, v))) (ht : t ≠ 0) (hv : v ≠ 0) :
    (run (us ++ [u0, u1, u2])).cfg c = some ⟨true, t, v⟩ := by
  simpa using enabled_case (us ++ [u0, u1]) u2 c t v h2 ht hv

example : (run [exU [("a", some (50, 10))], exU [], exU [("a", some (30, 7))]]).cfg "a" = some ⟨true, 30, 7⟩ := by decide +kernel
example : (run [exU [("a", some (50, 10))], exU []]).cfg "zz" = none := by decide +kernel

end XdsVerif.Properties.C16
