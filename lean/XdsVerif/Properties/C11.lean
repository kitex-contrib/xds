import XdsVerif.Proofs.Decode
import XdsVerif.Generated.Facts
/-!
# C11 — listener and route decoding preserves the control plane's meaning
For all message trees (every field the decoder reads, every `oneof` alternative, empty and repeated
collections) and every regex-compilation oracle.
-/
namespace XdsVerif.Properties.C11
open XdsVerif.Decode

abbrev F : DecodeFacts := Generated.decode

/-- bridge: back-off base read from base_interval; the rate-limit scan goes through all HTTP filters -/
theorem facts_decode : F = Decode.expectedFacts := by decide +kernel

/-- **header conditions**: when no two *supported* conditions of a route share a header name, the decoded
matcher set is exactly the supported conditions, in order (nothing lost, nothing invented) -/
theorem headers_preserved (compiles : Oracles) (hs : List PHeader)
    (hd : ((hs.filterMap (supported compiles)).map (·.1)).Nodup) :
    buildMatchers compiles hs = hs.filterMap (supported compiles) :=
  (buildMatchers_eq_foldl compiles hs).trans (foldl_step_nodup compiles hs [] hd)

/-- what counts as supported: a non-empty exact or prefix pattern, or a non-empty regular expression that compiles;
everything else (empty patterns, non-compiling regexes, other matcher kinds) is dropped -/
theorem supported_exact (compiles : Oracles) (n s : String) :
    supported compiles ⟨n, .stringMatch (.exact s)⟩ = if s ≠ "" then some (n, .exact s) else none := rfl
theorem supported_prefix (compiles : Oracles) (n s : String) :
    supported compiles ⟨n, .stringMatch (.pfx s)⟩ = if s ≠ "" then some (n, .pfx s) else none := rfl
theorem supported_regex (compiles : Oracles) (n r : String) :
    supported compiles ⟨n, .stringMatch (.safeRegex (some r))⟩ = if r ≠ "" ∧ compiles.compiles r then some (n, .regex r) else none := rfl
theorem supported_other (compiles : Oracles) (n : String) :
    supported compiles ⟨n, .other⟩ = none ∧ supported compiles ⟨n, .stringMatch .other⟩ = none ∧
    supported compiles ⟨n, .stringMatch (.safeRegex none)⟩ = none := ⟨rfl, rfl, rfl⟩

/-- known limitation made explicit (finding S13): with two supported conditions on one header name only the last
survives — the hypothesis of `headers_preserved` is needed -/
theorem dup_header_names_shadow :
    buildMatchers ⟨fun _ => true, fun _ => true⟩ [⟨"k", .stringMatch (.exact "a")⟩, ⟨"k", .stringMatch (.pfx "b")⟩] = [("k", .pfx "b")] := by
  decide +kernel

theorem retryExtStep_frame (O : Oracles) (d : DRetry) (h : PHeader) :
    ∃ e m, retryExtStep O d h = { d with errRate := e, methods := m } := by
  unfold retryExtStep
  by_cases h1 : extValue h = ""
  · exact ⟨_, _, if_pos h1⟩
  · rw [if_neg h1]
    by_cases h2 : h.name = "kitexRetryErrorRate"
    · rw [if_pos h2]
      by_cases h4 : O.parsesFloat (extValue h) = true
      · exact ⟨_, _, if_pos h4⟩
      · exact ⟨_, _, if_neg h4⟩
    · rw [if_neg h2]
      by_cases h3 : h.name = "kitexRetryMethods"
      · exact ⟨_, _, if_pos h3⟩
      · exact ⟨_, _, if_neg h3⟩

/-- the retriable-header extensions touch only the error rate and the method list -/
theorem retryExt_frame (O : Oracles) (hs : List PHeader) (d : DRetry) :
    ∃ e m, retryExt O hs d = { d with errRate := e, methods := m } := by
  induction hs generalizing d with
  | nil => exact ⟨_, _, rfl⟩
  | cons h hs ih =>
    obtain ⟨e, m, hd⟩ := retryExtStep_frame O d h
    obtain ⟨e', m', h'⟩ := ih (retryExtStep O d h)
    exact ⟨e', m', by rw [retryExt, List.foldl_cons, ← retryExt, h', hd]⟩

/-- **the retry policy**: attempts, per-try timeouts, retry-on, and back-off base and maximum *as sent* -/
theorem retry_preserves (O : Oracles) (p : PRetry) :
    (decodeRetry F O p).numRetries = p.numRetries.getD 0 ∧ (decodeRetry F O p).perTry = p.perTry.getD 0 ∧
    (decodeRetry F O p).perTryIdle = p.perTryIdle.getD 0 ∧ (decodeRetry F O p).retryOn = p.retryOn ∧
    (decodeRetry F O p).backoff = p.backoff.map (fun b => ⟨b.base.getD 0, b.max.getD 0⟩) := by
  rw [facts_decode]
  unfold decodeRetry
  obtain ⟨e, m, h⟩ := retryExt_frame O p.retriable
    { retryOn := p.retryOn, numRetries := p.numRetries.getD 0, perTry := p.perTry.getD 0, perTryIdle := p.perTryIdle.getD 0 }
  simp only [h]
  cases p.backoff with
  | none | some => exact ⟨rfl, rfl, rfl, rfl, rfl⟩

/-- the two retriable-header extensions: the last non-empty exact value of each name wins -/
theorem retry_ext_headers (O : Oracles) (v : String) (hv : v ≠ "") (hp : O.parsesFloat v = true) (d0 : DRetry) :
    (retryExt O [⟨"kitexRetryErrorRate", .stringMatch (.exact v)⟩] d0).errRate = some v ∧
    (retryExt O [⟨"kitexRetryMethods", .stringMatch (.exact v)⟩] d0).methods = splitComma v := by
  simp [retryExt, retryExtStep, extValue, hv, hp]

/-- the destination clusters a route action lists, with weights (a single cluster has weight 1) -/
def clustersOf : PClusterSpec → List (String × Nat)
  | .cluster n => [(n, 1)]
  | .weighted (some cs) => cs.map (fun c => (c.1, c.2.getD 0))
  | _ => []

/-- **one route**: path condition, header conditions, clusters with weights, timeout and retry policy -/
theorem route_preserves (compiles : Oracles) (r : PRoute) (m : PRouteMatch) (a : PRouteAction) (d : DRoute)
    (hm : r.mtch = some m) (ha : r.action = .route a) (h : decodeRoute F compiles r = .ok d) :
    d.mtch = .http { path := (match m.path with | .path s => s | _ => ""),
                     pfx := (match m.path with | .pfx s => s | _ => ""),
                     headers := buildMatchers compiles m.headers } ∧
    d.clusters = clustersOf a.spec ∧
    d.timeout = a.timeout.getD 0 ∧
    d.retry = (match a.retry with | some p => decodeRetry F compiles p | none => {}) := by
  obtain ⟨_, _, _⟩ := r
  cases hm
  cases ha
  obtain ⟨spec, _, _⟩ := a
  cases spec with
  | other | cluster => cases h; exact ⟨rfl, rfl, rfl, rfl⟩
  | weighted cs =>
    cases cs with
    | none => cases h
    | some l => cases h; exact ⟨rfl, rfl, rfl, rfl⟩

/-- **order**: routes are decoded one for one, in the order listed -/
theorem routes_in_order (compiles : Oracles) (rs : List PRoute) (ds : List DRoute)
    (h : decodeRoutes F compiles rs = .ok ds) :
    ds.length = rs.length ∧ ∀ (i : Nat) (r : PRoute), rs[i]? = some r → ∃ d, ds[i]? = some d ∧ decodeRoute F compiles r = .ok d :=
  Outcome.mapM_eq_ok (decodeRoutes_eq_mapM F compiles rs ▸ h)

/-- virtual hosts are decoded one for one, in order, keeping their names -/
theorem vhosts_in_order (compiles : Oracles) (vs : List PVirtualHost) (ds : List DVirtualHost)
    (h : decodeVHosts F compiles vs = .ok ds) :
    ds.length = vs.length ∧ ∀ (i : Nat) (v : PVirtualHost), vs[i]? = some v →
      ∃ d, ds[i]? = some d ∧ d.name = v.name ∧ decodeRoutes F compiles v.routes = .ok d.routes := by
  obtain ⟨hl, hi⟩ := Outcome.mapM_eq_ok (decodeVHosts_eq_mapM F compiles vs ▸ h)
  refine ⟨hl, fun i v hv => ?_⟩
  obtain ⟨d, hd, hv⟩ := hi i v hv
  unfold decodeVHost at hv
  cases hr : decodeRoutes F compiles v.routes with
  | ok rs => rw [hr] at hv; cases hv; exact ⟨_, hd, rfl, rfl⟩
  | _ => rw [hr] at hv; cases hv

/-- a filter that neither carries a token bucket nor makes the scan fail -/
def transparent : PHttpFilter → Bool
  | .other => true
  | .typed none => true
  | .typed (some .otherUrl) => true
  | .typed (some (.rateLimit (.ok none))) => true
  | .typed (some (.rateLimit .badUrl)) => true
  | .typed (some (.typedStruct .badUrl)) => true
  | .typed (some (.typedStruct (.ok none))) => true
  | .typed (some (.typedStruct (.ok (some (none, _))))) => true
  | .typed (some (.typedStruct (.ok (some (some _, none))))) => true
  | _ => false

/-- one step of the scan, when it goes through all filters: a transparent filter is passed over, any other one
gives a bucket or an error, not a panic (for any facts `F` with the scan-all shape, not the file's `F`) -/
theorem rateLimitOf_cons (F : DecodeFacts) (hF : F.rateLimitScansAll = true) (f : PHttpFilter) (rest : List PHttpFilter) :
    if transparent f then rateLimitOf F (f :: rest) = rateLimitOf F rest else rateLimitOf F (f :: rest) ≠ .panic := by
  obtain ⟨_, _⟩ := F
  cases hF
  cases f with
  | other => exact rfl
  | typed c =>
    cases c with
    | none => exact rfl
    | some src =>
      cases src with
      | otherUrl => exact rfl
      | rateLimit p =>
        cases p with
        | badUrl => exact rfl
        | badBytes => nofun
        | ok o =>
          cases o with
          | none => exact rfl
          | some v => nofun
      | typedStruct p =>
        cases p with
        | badUrl => exact rfl
        | badBytes => nofun
        | ok o =>
          cases o with
          | none => exact rfl
          | some v =>
            obtain ⟨_ | mt, _ | tpf⟩ := v
            · exact rfl
            · exact rfl
            · exact rfl
            · nofun

theorem rateLimitOf_transparent_append (pre l : List PHttpFilter) (hpre : pre.all transparent = true) :
    rateLimitOf F (pre ++ l) = rateLimitOf F l := by
  induction pre with
  | nil => rfl
  | cons f pre ih =>
    rw [List.all_cons, Bool.and_eq_true] at hpre
    have := rateLimitOf_cons F (congrArg (·.rateLimitScansAll) facts_decode) f (pre ++ l)
    rw [if_pos hpre.1] at this
    rw [List.cons_append, this, ih hpre.2]

/-- **the local rate-limit bucket is found wherever the rate-limit filter sits in the HTTP filter chain** -/
theorem rate_limit_any_position (pre post : List PHttpFilter) (mt : Nat) (tpf : Option Nat)
    (hpre : pre.all transparent = true) :
    rateLimitOf F (pre ++ PHttpFilter.typed (some (.rateLimit (.ok (some (mt, tpf))))) :: post) = .ok (mt, tpf.getD 0) := by
  rw [rateLimitOf_transparent_append pre _ hpre]
  rfl

/-- the same for the `TypedStruct` form of the filter -/
theorem rate_limit_typed_struct (pre post : List PHttpFilter) (mt tpf : Nat) (hpre : pre.all transparent = true) :
    rateLimitOf F (pre ++ PHttpFilter.typed (some (.typedStruct (.ok (some (some mt, some tpf))))) :: post) = .ok (mt, tpf) := by
  rw [rateLimitOf_transparent_append pre _ hpre]
  rfl

/-- **an HTTP connection manager filter**: the named table (RDS) or the inline table, with the bucket attached -/
theorem hcm_preserves (compiles : Oracles) (h : PHcm) (mt tpf : Nat) (hr : rateLimitOf F h.httpFilters = .ok (mt, tpf)) :
    (∀ n, h.spec = .rds (some n) → n ≠ "" →
        decodeHcm F compiles h = .ok (n, some { http := none, thrift := none, maxTokens := mt, tokensPerFill := tpf })) ∧
    (∀ c d, h.spec = .routeConfig (some c) → decodeRouteConfig F compiles c = .ok d →
        decodeHcm F compiles h = .ok (c.name, some { d with maxTokens := mt, tokensPerFill := tpf })) ∧
    (h.spec = .other → decodeHcm F compiles h = .ok ("", none)) := by
  unfold decodeHcm
  rw [hr]
  refine ⟨?_, ?_, ?_⟩
  · intro n hs hn; simp [hs, hn]
  · intro c d hs hd; simp [hs, hd]
  · intro hs; simp [hs]

/-- Thrift-proxy routes are decoded one for one, in order (method / service name, tags, clusters) -/
theorem thrift_routes_in_order (compiles : Oracles) (rs : List PThriftRoute) (ds : List DRoute)
    (h : decodeThriftRoutes compiles rs = .ok ds) : ds.length = rs.length :=
  (Outcome.mapM_eq_ok (decodeThriftRoutes_eq_mapM compiles rs ▸ h)).1

/-! non-vacuity -/
example : rateLimitOf F [.other, .typed (some .otherUrl), .typed (some (.rateLimit (.ok (some (10, some 101)))))] = .ok (10, 101) := by rfl
example : (match decodeRoute F ⟨fun _ => true, fun _ => true⟩
    ⟨"r", some ⟨.path "/p", [⟨"k", .stringMatch (.exact "v")⟩]⟩,
     .route ⟨.weighted (some [("a", some 3), ("b", none)]), some 5000000, some ⟨"5xx", some 2, some 100000000, none, [], some ⟨some 10000000, some 30000000⟩⟩⟩⟩ with
   | .ok d => (d.clusters, d.timeout, d.retry.backoff) | _ => ([], 0, none))
   = ([("a", 3), ("b", 0)], 5000000, some ⟨10000000, 30000000⟩) := by decide +kernel

end XdsVerif.Properties.C11
