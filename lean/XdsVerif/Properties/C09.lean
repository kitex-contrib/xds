import XdsVerif.Proofs.Pick
import XdsVerif.Generated.Facts
/-!
# C09 — weighted cluster selection is proportional; zero weight is never picked

Theorems are about `Pick.pick` instantiated with the facts regenerated from
`xdssuite/router.go` (`Generated.pick`). `t` is the value of the random draw; the draw
primitive is trusted to be uniform on `[0,total)`, so "`w` of the `total` draw values select
cluster `k`" is "probability `w/total`".
Domain: `NoWrap ws` — the weights sum below 2^32 (Envoy rejects larger totals; beyond it
`calTotalWeight` itself wraps).
-/
namespace XdsVerif.Properties.C09
open XdsVerif.Pick

abbrev F : PickFacts := Generated.pick

/-- bridge: the source has the strict comparison, the unsigned draw and the guards -/
theorem facts_pick : Good F := by unfold Good; decide +kernel

abbrev NoWrap (ws : List Nat) : Prop := ws.sum < W

/-- the selected index is the one whose cumulative interval contains the draw (`a :: b :: rest`: the branch of `pick`
for two or more clusters; none and one are `empty_error`, `single_always`) -/
theorem pick_interval (a b : Nat) (rest : List Nat) (t k : Nat)
    (hnw : NoWrap (a :: b :: rest)) (hpos : 0 < (a :: b :: rest).sum) :
    pick F (a :: b :: rest) t = .idx k ↔
      ∃ w, (a :: b :: rest)[k]? = some w ∧ ((a :: b :: rest).take k).sum ≤ t
           ∧ t < ((a :: b :: rest).take k).sum + w := by
  obtain ⟨hs, hd, _, _⟩ := facts_pick
  have := scan_iff (a :: b :: rest) 0 t 0 k (Nat.zero_le _) (by omega)
  simp only [Nat.zero_add, exists_eq_left'] at this
  rw [← this]
  simp only [pick, total_eq_sum _ hnw, Nat.ne_of_gt hpos, if_false, hd, hs, drawRange]
  cases scan true (a :: b :: rest) 0 t 0 <;> simp

/-- exact proportionality: of the `total` equally likely draw values exactly `w_k` select cluster `k` -/
theorem pick_count (a b : Nat) (rest : List Nat) (k w : Nat)
    (hnw : NoWrap (a :: b :: rest)) (hpos : 0 < (a :: b :: rest).sum)
    (hk : (a :: b :: rest)[k]? = some w) :
    countOut F (a :: b :: rest) (a :: b :: rest).sum (.idx k) = w := by
  obtain ⟨m, hm⟩ := Nat.exists_eq_add_of_le (take_sum_add_le _ k w hk)
  unfold countOut
  simp only [pick_interval a b rest _ k hnw hpos, hk, Option.some.injEq, exists_eq_left']
  rw [hm]
  exact count_interval _ w m

/-- a cluster of weight 0 never receives traffic, whatever the draw -/
theorem zero_never (a b : Nat) (rest : List Nat) (k t : Nat)
    (hnw : NoWrap (a :: b :: rest)) (hk : (a :: b :: rest)[k]? = some 0) :
    pick F (a :: b :: rest) t ≠ .idx k := by
  by_cases hpos : 0 < (a :: b :: rest).sum
  · intro h
    obtain ⟨w, hw, h1, h2⟩ := (pick_interval a b rest t k hnw hpos).mp h
    rw [hk] at hw; cases hw; omega
  · have h0 : (a :: b :: rest).sum = 0 := by omega
    unfold pick
    simp [total_eq_sum _ hnw, h0]

/-- a cluster holding all the weight is always chosen -/
theorem sole_always (a b : Nat) (rest : List Nat) (k t : Nat)
    (hnw : NoWrap (a :: b :: rest)) (hpos : 0 < (a :: b :: rest).sum)
    (hk : (a :: b :: rest)[k]? = some (a :: b :: rest).sum) (ht : t < (a :: b :: rest).sum) :
    pick F (a :: b :: rest) t = .idx k := by
  have := take_sum_add_le _ k _ hk
  exact (pick_interval a b rest t k hnw hpos).mpr ⟨_, hk, by omega, by omega⟩

/-- every draw below a positive total selects some cluster ("random pick failed" is unreachable) -/
theorem positive_total_picks (a b : Nat) (rest : List Nat) (t : Nat)
    (hnw : NoWrap (a :: b :: rest)) (ht : t < (a :: b :: rest).sum) :
    ∃ k, pick F (a :: b :: rest) t = .idx k ∧ k < (a :: b :: rest).length := by
  obtain ⟨k, w, hk, h⟩ := interval_cover _ t ht
  exact ⟨k, (pick_interval a b rest t k hnw (by omega)).mpr ⟨w, hk, h⟩, (List.getElem?_eq_some_iff.mp hk).1⟩

/-- a single listed cluster is always chosen, whatever its weight -/
theorem single_always (w t : Nat) : pick F [w] t = .idx 0 := rfl

/-- no clusters ⇒ routing error -/
theorem empty_error (t : Nat) : pick F [] t = .err := rfl

/-- zero total weight ⇒ routing error, never an arbitrary pick -/
theorem zero_total_error (a b : Nat) (rest : List Nat) (t : Nat) (h : total (a :: b :: rest) = 0) :
    pick F (a :: b :: rest) t = .err := by
  unfold pick; simp [h]

/-- the draw primitive is never called outside its domain: no panic for any weight vector -/
theorem never_panics (ws : List Nat) (t : Nat) : pick F ws t ≠ .panic := by
  have hd : F.draw = .uint32n := facts_pick.2.1
  unfold pick
  split
  · simp
  · simp
  · simp only
    split
    · simp
    · rw [hd]; simp only [drawRange]
      split <;> simp

/-! non-vacuity: concrete vectors meeting the hypotheses -/
example : NoWrap [0, 1] ∧ 0 < [0, 1].sum ∧ pick F [0, 1] 0 = .idx 1 := by decide +kernel
example : countOut F [1, 2, 1] 4 (.idx 1) = 2 := by decide +kernel
example : pick F [3000000000, 1] 2999999999 = .idx 0 := by decide +kernel

end XdsVerif.Properties.C09
