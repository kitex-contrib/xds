import XdsVerif.Proofs.Seq
import XdsVerif.Proofs.Sys
import XdsVerif.Generated.Facts
/-!
# C01 — the served cache equals the fold of the accepted responses

`run cfg init ops = some s`: `ops` is a valid history of the state machine (every operation was
enabled when it happened). The theorem is pointwise in the resource type and name, for both
configurations (`cfg.ndsRequired`), histories of any length with pushes (full, partial, with
unsolicited extras, undecodable slots), subscriptions, evictions, stream failures and sender steps
in any order.
-/
namespace XdsVerif.Properties.C01
open XdsVerif.Seq XdsVerif.Spec.Seq

/-- bridge: the facts the state machine was written against are the ones the source has now -/
theorem facts_seq : Generated.seq = Seq.expectedFacts := by decide +kernel

/-- **refinement**: what a lookup is served is what the backward-scan specification says -/
theorem served_eq_fold (cfg : Cfg) (ops : List Op) (s : St) (h : run cfg init ops = some s) (rt : RType) (n : Name) :
    s.cache rt n = served cfg ops.reverse rt n :=
  (Agree.of_run h).cache rt n

/-- an accepted response of a *full* type (listeners, clusters) replaces the whole set: omitted names are dropped -/
theorem full_replaces (cfg : Cfg) (rest : List Op) (r : Resp) (now : Nat) (n : Name)
    (hf : isFull r.rt = true) (ha : accepted rest r = true) (hn : r.rt ≠ .nds) :
    served cfg (.push r now :: rest) r.rt n = carried cfg rest r n := by
  simp only [served, ha, hn, ne_eq, not_false_eq_true, and_self, if_true, hf]
  cases carried cfg rest r n <;> rfl

/-- an accepted response of a *merge* type (route tables, endpoint sets) keeps what it does not mention -/
theorem merge_keeps (cfg : Cfg) (rest : List Op) (r : Resp) (now : Nat) (n : Name)
    (hf : isFull r.rt = false) (hc : carried cfg rest r n = none) :
    served cfg (.push r now :: rest) r.rt n = served cfg rest r.rt n := by
  rw [served, hc, hf]
  split <;> rfl

/-- ... and replaces what it does mention with the newest content -/
theorem latest_wins (cfg : Cfg) (rest : List Op) (r : Resp) (now : Nat) (n : Name) (v : Val)
    (ha : accepted rest r = true) (hn : r.rt ≠ .nds) (hc : carried cfg rest r n = some v) :
    served cfg (.push r now :: rest) r.rt n = some v := by
  simp [served, ha, hn, hc]

/-- a rejected response (undecodable slot, or a type that was never watched) is not part of the fold -/
theorem rejected_not_in_fold (cfg : Cfg) (rest : List Op) (r : Resp) (now : Nat) (rt : RType) (n : Name)
    (ha : accepted rest r = false) : served cfg (.push r now :: rest) rt n = served cfg rest rt n := by
  simp [served, ha]

/-- a response of one type never changes what is served for another type -/
theorem other_type_untouched (cfg : Cfg) (rest : List Op) (r : Resp) (now : Nat) (rt : RType) (n : Name)
    (h : r.rt ≠ rt) : served cfg (.push r now :: rest) rt n = served cfg rest rt n := by
  simp [served, h]

/-- the same on the state itself (cache, access records, interest set, acknowledged version): handling a response of one
type touches nothing that belongs to another type - e.g. removing a cluster never drops the endpoint set it names -/
theorem push_touches_only_its_type (cfg : Cfg) (s s' : St) (r : Resp) (now : Nat) (t : RType) (ht : t ≠ r.rt)
    (hs : step cfg s (.push r now) = some s') :
    s'.cache t = s.cache t ∧ s'.acc t = s.acc t ∧ s'.watched t = s.watched t ∧ s'.version t = s.version t := by
  cases step_iff.mp hs with
  | pushUnwatched => exact ⟨rfl, rfl, rfl, rfl⟩
  | pushNack | pushTable => exact ⟨rfl, rfl, rfl, if_neg (fun h => ht h.1)⟩
  | pushUpdate => exact ⟨if_neg ht, funext fun _ => if_neg ht, rfl, if_neg (fun h => ht h.1)⟩

/-- names that were never asked for are never stored or served: whatever is served was carried by an
accepted response at a moment when the name was subscribed -/
theorem never_unsolicited (cfg : Cfg) (rops : List Op) (rt : RType) (n : Name) (v : Val)
    (h : served cfg rops rt n = some v) :
    ∃ pre r now rest, rops = pre ++ .push r now :: rest ∧ r.rt = rt ∧ accepted rest r = true ∧
      subscribedAt rest rt n = true ∧ carried cfg rest r n = some v := by
  induction rops with
  | nil => cases h
  | cons op rest ih =>
    rcases served_cons_some h with ⟨h', _⟩ | ⟨r, now, rfl, rfl, ha, hc⟩
    · obtain ⟨pre, r, now, rest', e, h⟩ := ih h'
      exact ⟨op :: pre, r, now, rest', congrArg (op :: ·) e, h⟩
    · exact ⟨[], r, now, rest, rfl, rfl, ha, carried_subscribed hc, hc⟩

/-- C14 over histories: a listener lookup name is served by the listener the control plane named
`<ip>_<port>` for the name table current at that response (Istio configuration) -/
theorem lds_binding (cfg : Cfg) (rest : List Op) (r : Resp) (n : Name)
    (hl : r.rt = .lds) (hnds : cfg.ndsRequired = true) (hres : n ≠ reserved) (hs : subscribedAt rest .lds n = true) :
    carried cfg rest r n = (listenerNameOf cfg (tableAt rest) n).bind (resOf r.slots) := by
  rw [carried, hl, hs, if_pos rfl, if_pos ⟨rfl, hnds, hres⟩]
  cases listenerNameOf cfg (tableAt rest) n <;> rfl

/-- without a name table (or for the reserved inbound listener) the name is looked up literally -/
theorem lds_literal (cfg : Cfg) (rest : List Op) (r : Resp) (n : Name)
    (h : cfg.ndsRequired = false ∨ n = reserved) (hs : subscribedAt rest r.rt n = true) :
    carried cfg rest r n = resOf r.slots n := by
  unfold carried
  simp only [hs, if_true]
  rcases h with h | h <;> simp [h]

/-- no two values for one name: a response with duplicate names counts once, the later slot wins -/
theorem dup_last_wins (k : Name) (v w : Val) (rest : List Slot) (h : resOf rest k = none) :
    resOf (.good k v :: .good k w :: rest) k = some w := by
  simp [resOf, h]


/-- **what is cached is subscribed** (all histories): a cached name is in the interest set of its type, so it keeps
receiving updates and an eviction really ends its subscription -/
theorem cached_is_subscribed (cfg : Cfg) (ops : List Op) (s : St) (h : run cfg init ops = some s)
    (rt : RType) (n : Name) (v : Val) (hc : s.cache rt n = some v) :
    ((s.watched rt).getD []).contains n = true :=
  Seq.cached_is_subscribed cfg ops s h rt n v hc

/-- **the refinement holds with any number of concurrent lookups**: in the composed system (`Model/Sys.lean`: the
lookup threads of C05–C07 acting on the client's cache, at the granularity of `Get`'s lock sections), every schedule
whose response handlers run their sections back to back serves exactly the fold of the accepted responses of the
history it performed — whatever the lookups do in between (miss, subscribe, wait, time out, re-read) -/
theorem served_eq_fold_concurrent (cfg : Cfg) (V : Conc.Variant) (T : RType) (tn : Nat → Name)
    (ls : List Sys.Lbl) (s : Sys.St) (e : Sys.Emit) (ha : Sys.atomic ls = true)
    (h : Sys.run cfg V T tn Sys.init ls = some (s, e)) (rt : RType) (n : Name) :
    s.seq.cache rt n = served cfg e.seq.reverse rt n :=
  served_eq_fold cfg e.seq s.seq (Sys.run_seq cfg V T tn ls Sys.init s e rfl ha h).1 rt n

/-- ... and what a lookup thread reads is that same cache -/
theorem lookups_read_the_served_cache (cfg : Cfg) (V : Conc.Variant) (T : RType) (tn : Nat → Name)
    (ls : List Sys.Lbl) (s : Sys.St) (e : Sys.Emit) (ha : Sys.atomic ls = true)
    (h : Sys.run cfg V T tn Sys.init ls = some (s, e)) (n : Name) :
    s.conc.cache n = served cfg e.seq.reverse T n := by
  rw [Sys.coupled_run cfg V T tn ls Sys.init s e (Sys.coupled_init T) h n]
  exact served_eq_fold_concurrent cfg V T tn ls s e ha h T n

/-! non-vacuity: a concrete Istio-style history (subscribe, name table, listener set, replacement) -/
def exCfg : Cfg := { sendAborts := true, metaInitNow := true, ndsRequired := true, ns := "default".toList, dom := "cluster.local".toList }
def exOps : List Op :=
  [.subscribe .nds "", .senderSend false,
   .push { rt := .nds, version := "1", nonce := "a", slots := [.good "" ""],
           table := some [("echo.default.svc.cluster.local", ["10.0.0.1"])] } 0,
   .senderSend false,
   .subscribe .lds "echo:8888", .senderSend false,
   .push { rt := .lds, version := "1", nonce := "b", slots := [.good "10.0.0.1_8888" "L1", .good "10.0.0.9_80" "X"] } 0,
   .senderSend false]
example : (run exCfg init exOps).map (fun s => (s.cache .lds "echo:8888", s.cache .lds "10.0.0.9_80"))
    = some (some "L1", none) := by decide +kernel

end XdsVerif.Properties.C01
