import XdsVerif.Model.Resolve
import XdsVerif.Generated.Facts
/-!
# C10 — resolution returns exactly the control plane's endpoints for the cluster
For every pair of lookup functions (i.e. every cache content / failure pattern) and every name.
Address, port and weight preservation *into* the cached values is C12; their history is C01.
-/
namespace XdsVerif.Properties.C10
open XdsVerif.Resolve

abbrev F : ResolveFacts := Generated.resolver

theorem facts_resolver : F = expectedFacts := by decide +kernel

/-- the load assignment the resolver must use: inline if present, else the one named by the cluster -/
def Chosen (getE : String → Option (Option Endpoints)) (c : Cluster) (e : Endpoints) : Prop :=
  c.inline = some e ∨ (c.inline = none ∧ getE c.endpointName = some (some e))

/-- with the cluster and its chosen assignment in hand, the answer is the concatenated localities, or the
"no endpoints" error when there are none (the two emptiness tests of the source amount to this one) -/
theorem getEndpoints_chosen {getC : String → Option Cluster} {getE : String → Option (Option Endpoints)}
    {desc : String} {c : Cluster} {e : Endpoints} (hc : getC desc = some c) (hch : Chosen getE c e) :
    getEndpoints F getC getE desc =
      if e.localities.flatten = [] then .error .noEndpoints else .ok e.localities.flatten := by
  have : getEndpoints F getC getE desc =
      if e.localities.length = 0 then .error .noEndpoints
      else if e.localities.flatten.length = 0 then .error .noEndpoints else .ok e.localities.flatten := by
    rw [facts_resolver]
    unfold getEndpoints expectedFacts
    rcases hch with hi | ⟨hi, he⟩
    · simp only [hc, hi]
    · simp only [hc, hi, he]
  rw [this]
  cases e.localities with
  | nil => rfl
  | cons l ls => simp only [List.length_cons, Nat.succ_ne_zero, if_false, List.length_eq_zero_iff]

/-- **exactness**: success means exactly the chosen assignment's endpoints, localities concatenated in order -/
theorem resolve_exact (getC : String → Option Cluster) (getE : String → Option (Option Endpoints))
    (desc : String) (is : List Endpoint) :
    getEndpoints F getC getE desc = .ok is ↔
      ∃ c e, getC desc = some c ∧ Chosen getE c e ∧ is = e.localities.flatten ∧ is ≠ [] := by
  constructor
  · intro h
    obtain ⟨c, e, hc, hch⟩ : ∃ c e, getC desc = some c ∧ Chosen getE c e := by
      cases hc : getC desc with
      | none => simp [getEndpoints, hc] at h
      | some c =>
        cases hi : c.inline with
        | some e => exact ⟨c, e, rfl, .inl hi⟩
        | none =>
          cases he : getE c.endpointName with
          | none => simp [getEndpoints, hc, hi, he] at h
          | some v =>
            cases v with
            | none => simp [getEndpoints, hc, hi, he] at h
            | some e => exact ⟨c, e, rfl, .inr ⟨hi, he⟩⟩
    rw [getEndpoints_chosen hc hch] at h
    split at h
    · cases h
    · cases h; exact ⟨c, e, hc, hch, rfl, ‹_›⟩
  · rintro ⟨c, e, hc, hch, rfl, hne⟩
    rw [getEndpoints_chosen hc hch, if_neg hne]

/-- never an empty success -/
theorem no_empty_success (getC : String → Option Cluster) (getE : String → Option (Option Endpoints))
    (desc : String) (r : Result) (h : resolve F getC getE desc = .ok r) : r.instances ≠ [] := by
  unfold resolve at h
  split at h
  · cases h
  · next eps he =>
    cases h
    obtain ⟨_, _, _, _, _, hne⟩ := (resolve_exact getC getE desc eps).mp he
    exact hne

/-- a cluster that cannot be fetched yields an error -/
theorem fetch_error_propagates (getC : String → Option Cluster) (getE : String → Option (Option Endpoints))
    (desc : String) :
    (getC desc = none → resolve F getC getE desc = .error .fetchCluster) ∧
    (∀ c, getC desc = some c → c.inline = none → getE c.endpointName = none →
        resolve F getC getE desc = .error .fetchEndpoints) := by
  unfold resolve getEndpoints
  constructor
  · intro h; simp [h]
  · intro c hc hi he; simp [hc, hi, he]

/-- an empty / absent load assignment yields the "no endpoints" error -/
theorem no_endpoints_error (getC : String → Option Cluster) (getE : String → Option (Option Endpoints))
    (desc : String) (c : Cluster) (hc : getC desc = some c)
    (h : (∃ e, c.inline = some e ∧ e.localities.flatten = []) ∨
         (c.inline = none ∧ (getE c.endpointName = some none ∨ ∃ e, getE c.endpointName = some (some e) ∧ e.localities.flatten = []))) :
    resolve F getC getE desc = .error .noEndpoints := by
  unfold resolve
  obtain ⟨e, hi, hf⟩ | ⟨hi, he | ⟨e, he, hf⟩⟩ := h
  · rw [getEndpoints_chosen hc (.inl hi), if_pos hf]
  · simp [getEndpoints, hc, hi, he]
  · rw [getEndpoints_chosen hc (.inr ⟨hi, he⟩), if_pos hf]

/-- results are cacheable under the cluster name -/
theorem cacheable_key (getC : String → Option Cluster) (getE : String → Option (Option Endpoints))
    (desc : String) (r : Result) (h : resolve F getC getE desc = .ok r) :
    r.cacheable = true ∧ r.cacheKey = desc := by
  rw [facts_resolver] at h
  unfold resolve expectedFacts at h
  split at h
  · cases h
  · cases h; exact ⟨rfl, rfl⟩

/-- the description resolved is the routed cluster when one was selected -/
theorem target_is_tag (c svc : String) : target (some c) svc = c ∧ target none svc = svc := ⟨rfl, rfl⟩

/-! non-vacuity -/
example : getEndpoints F (fun _ => some ⟨"e", none⟩)
    (fun _ => some (some ⟨[[⟨"10.0.0.1:80", 1⟩], [], [⟨"10.0.0.2:80", 3⟩]]⟩)) "c"
    = .ok [⟨"10.0.0.1:80", 1⟩, ⟨"10.0.0.2:80", 3⟩] := by rfl
example : getEndpoints F (fun _ => some ⟨"e", none⟩) (fun _ => some (some ⟨[[]]⟩)) "c" = .error .noEndpoints := by rfl

/-! ## Non-interference and counting -/

/-- **only the routed cluster and its own load assignment matter**: two states of the cache that agree on the cluster
and on the load assignment it names give the same answer, success or error alike — no other cluster's endpoints can leak
into a resolution, whatever else the control plane has pushed -/
theorem resolve_frame (getC getC' : String → Option Cluster) (getE getE' : String → Option (Option Endpoints))
    (desc : String) (hc : getC desc = getC' desc)
    (he : ∀ c, getC desc = some c → getE c.endpointName = getE' c.endpointName) :
    resolve F getC getE desc = resolve F getC' getE' desc := by
  unfold resolve getEndpoints
  rw [← hc]
  cases hd : getC desc with
  | none => rfl
  | some c =>
    have := he c hd
    simp only [this]

/-- an inline load assignment shadows the named one completely -/
theorem inline_shadows_named (getC : String → Option Cluster) (getE getE' : String → Option (Option Endpoints))
    (desc : String) (c : Cluster) (e : Endpoints) (hc : getC desc = some c) (hi : c.inline = some e) :
    getEndpoints F getC getE desc = getEndpoints F getC getE' desc := by
  unfold getEndpoints
  simp only [hc, hi]

/-- nothing is dropped or duplicated: a success has as many instances as the localities have endpoints in total -/
theorem instance_count (getC : String → Option Cluster) (getE : String → Option (Option Endpoints))
    (desc : String) (is : List Endpoint) (h : getEndpoints F getC getE desc = .ok is) :
    ∃ c e, getC desc = some c ∧ Chosen getE c e ∧ is.length = (e.localities.map List.length).sum := by
  obtain ⟨c, e, hc, hch, rfl, _⟩ := (resolve_exact getC getE desc is).mp h
  exact ⟨c, e, hc, hch, List.length_flatten⟩

/-- every listed endpoint is returned, and every returned endpoint is listed (with its address and weight) -/
theorem instance_mem (getC : String → Option Cluster) (getE : String → Option (Option Endpoints))
    (desc : String) (is : List Endpoint) (h : getEndpoints F getC getE desc = .ok is) :
    ∃ c e, getC desc = some c ∧ Chosen getE c e ∧ ∀ x, x ∈ is ↔ ∃ l ∈ e.localities, x ∈ l := by
  obtain ⟨c, e, hc, hch, rfl, _⟩ := (resolve_exact getC getE desc is).mp h
  exact ⟨c, e, hc, hch, fun x => List.mem_flatten⟩

example : resolve F (fun d => if d = "c" then some ⟨"e", none⟩ else some ⟨"other", none⟩)
      (fun n => if n = "e" then some (some ⟨[[⟨"10.0.0.1:80", 1⟩]]⟩) else some (some ⟨[[⟨"6.6.6.6:80", 1⟩]]⟩)) "c"
    = .ok ⟨true, "c", [⟨"10.0.0.1:80", 1⟩]⟩ := by rfl

end XdsVerif.Properties.C10
