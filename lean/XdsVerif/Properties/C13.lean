import XdsVerif.Proofs.Decode
import XdsVerif.Properties.C11
import XdsVerif.Properties.C12
import XdsVerif.Generated.Facts
/-!
# C13 — decoders are total: hostile payloads produce errors, never panics

The byte level belongs to `proto.Unmarshal` (trusted, total: it returns an error or a message whose
`oneof` wrappers carry non-nil payloads). The theorems start at its output: message trees in which
every pointer the code dereferences *directly* is explicit (`Option`, `none` = nil). `…Wire` says the
tree is one `proto.Unmarshal` can produce. Which accesses are direct is re-read from the source on
every run (bridge `facts_derefs`).
-/
namespace XdsVerif.Properties.C13
open XdsVerif.Decode

abbrev F : DecodeFacts := Generated.decode

/-- bridge: every direct field access in the decoder files is one the model accounts for -/
theorem facts_derefs : Generated.unknownDerefs = [] := by decide +kernel

/-! ### route configurations -/

def slotWireR : PAny PRouteConfiguration → Bool
  | .ok c => rcWire c
  | _ => true

/-- a route table is valid when every route has a match and an action -/
def rcValid (c : PRouteConfiguration) : Bool :=
  c.vhosts.all (fun v => v.routes.all (fun r => r.mtch.isSome && (match r.action with | .none => false | _ => true)))

def slotValidR : PAny PRouteConfiguration → Bool
  | .ok c => rcValid c
  | _ => false

/-- a route `proto.Unmarshal` can produce does not panic, and it decodes iff it has a match and an action -/
theorem decodeRoute_wire (O : Oracles) (r : PRoute) (h : routeWire r = true) :
    decodeRoute F O r ≠ .panic ∧
    (decodeRoute F O r).isOk = (r.mtch.isSome && match r.action with | .none => false | _ => true) := by
  obtain ⟨_, m, act⟩ := r
  cases m with
  | none => exact ⟨nofun, rfl⟩
  | some m =>
    cases act with
    | none | other => exact ⟨nofun, rfl⟩
    | route a =>
      obtain ⟨spec, _, _⟩ := a
      cases spec with
      | cluster | other => exact ⟨nofun, rfl⟩
      | weighted cs =>
        cases cs with
        | none => cases h
        | some l => exact ⟨nofun, rfl⟩

theorem decodeVHost_wire (O : Oracles) (v : PVirtualHost) (h : v.routes.all routeWire = true) :
    decodeVHost F O v ≠ .panic ∧
    (decodeVHost F O v).isOk = v.routes.all fun r => r.mtch.isSome && match r.action with | .none => false | _ => true := by
  obtain ⟨h1, h2⟩ := Outcome.mapM_wire fun r hr => decodeRoute_wire O r (List.all_eq_true.mp h r hr)
  rw [← h2, decodeVHost, decodeRoutes_eq_mapM]
  exact Outcome.ne_panic_cases h1 (fun _ => ⟨nofun, rfl⟩) fun _ => ⟨nofun, rfl⟩

/-- a route table `proto.Unmarshal` can produce does not panic, and it decodes iff it is valid -/
theorem decodeRouteConfig_wire (O : Oracles) (c : PRouteConfiguration) (h : rcWire c = true) :
    decodeRouteConfig F O c ≠ .panic ∧ (decodeRouteConfig F O c).isOk = rcValid c := by
  obtain ⟨h1, h2⟩ := Outcome.mapM_wire fun v hv => decodeVHost_wire O v (List.all_eq_true.mp h v hv)
  rw [rcValid, ← h2, decodeRouteConfig, decodeVHosts_eq_mapM]
  exact Outcome.ne_panic_cases h1 (fun _ => ⟨nofun, rfl⟩) fun _ => ⟨nofun, rfl⟩

/-- `UnmarshalRDS` never panics on anything `proto.Unmarshal` can hand it -/
theorem rds_no_panic (compiles : Oracles) (xs : List (PAny PRouteConfiguration))
    (h : xs.all slotWireR = true) : decodeRDS F compiles xs ≠ .panic := by
  induction xs with
  | nil => nofun
  | cons x xs ih =>
    rw [List.all_cons, Bool.and_eq_true] at h
    rw [decodeRDS]
    refine Outcome.ne_panic_cases (ih h.2) (fun _ => nofun) fun d => ?_
    cases x with
    | ok c =>
      dsimp only
      exact Outcome.ne_panic_cases (decodeRouteConfig_wire compiles c h.1).1 (fun _ => nofun) fun _ => nofun
    | _ => nofun

/-- **error iff invalid**: the response is rejected exactly when some resource has the wrong type URL, is not a
valid encoding, or contains a route without match or action; a well-formed response is never rejected -/
theorem rds_error_iff_invalid (compiles : Oracles) (xs : List (PAny PRouteConfiguration))
    (hw : xs.all slotWireR = true) (d : Decoded DRouteCfg) (h : decodeRDS F compiles xs = .ok d) :
    d.errors = [] ↔ xs.all slotValidR = true := by
  induction xs generalizing d with
  | nil => cases h; exact ⟨fun _ => rfl, fun _ => rfl⟩
  | cons x xs ih =>
    rw [List.all_cons, Bool.and_eq_true] at hw ⊢
    rw [decodeRDS] at h
    cases hr : decodeRDS F compiles xs with
    | ok d0 =>
      rw [hr] at h
      rw [← ih hw.2 d0 hr]
      cases x with
      | ok c =>
        dsimp only at h
        rw [slotValidR, ← (decodeRouteConfig_wire compiles c hw.1).2]
        generalize decodeRouteConfig F compiles c = o at h ⊢
        cases o with
        | panic => cases h
        | err | ok => cases h; simp [Outcome.isOk]
      | _ => cases h; simp [slotValidR]
    | _ => rw [hr] at h; cases h

/-! ### listeners -/

def thriftClusterWire : PThriftCluster → Bool
  | .weighted none => false
  | _ => true

def thriftWire (tp : PThriftProxy) : Bool :=
  match tp.routeConfig with
  | some rc => rc.2.all (fun r => match r.route with | some a => thriftClusterWire a | none => true)
  | none => true

def hcmWire (h : PHcm) : Bool :=
  match h.spec with
  | .routeConfig (some c) => rcWire c
  | _ => true

def filterWire : PFilterCfg → Bool
  | .typed none => false
  | .typed (some (.thrift (.ok tp))) => thriftWire tp
  | .typed (some (.hcm (.ok h))) => hcmWire h
  | _ => true

def listenerWire (l : PListener) : Bool :=
  (l.chains ++ (match l.dflt with | some c => [c] | none => [])).all (fun fc => fc.filters.all filterWire)

theorem thriftRoutes_no_panic (O : Oracles) (tp : PThriftProxy) (h : thriftWire tp = true) :
    decodeThriftRoutes O (match tp.routeConfig with | some rc => rc.2 | none => []) ≠ .panic := by
  rw [decodeThriftRoutes_eq_mapM]
  refine Outcome.mapM_ne_panic fun r hr => ?_
  obtain ⟨_ | rc⟩ := tp
  · cases hr
  · have h := List.all_eq_true.mp h r hr
    obtain ⟨m, a⟩ := r
    cases m with
    | none => nofun
    | some m =>
      cases a with
      | none => nofun
      | some a =>
        cases a with
        | cluster | other => nofun
        | weighted cs =>
          cases cs with
          | none => cases h
          | some l => nofun

theorem rateLimitOf_no_panic (fs : List PHttpFilter) : rateLimitOf F fs ≠ .panic := by
  induction fs with
  | nil => nofun
  | cons f fs ih =>
    have := C11.rateLimitOf_cons F (congrArg (·.rateLimitScansAll) C11.facts_decode) f fs
    split at this
    · rw [this]; exact ih
    · exact this

theorem decodeHcm_no_panic (O : Oracles) (h : PHcm) (hw : hcmWire h = true) : decodeHcm F O h ≠ .panic := by
  unfold decodeHcm
  refine Outcome.ne_panic_cases (rateLimitOf_no_panic h.httpFilters) (fun _ => nofun) fun v => ?_
  obtain ⟨spec, _⟩ := h
  cases spec with
  | other => nofun
  | rds n =>
    cases n with
    | none => nofun
    | some n => dsimp only; split <;> nofun
  | routeConfig c =>
    cases c with
    | none => nofun
    | some c =>
      dsimp only
      exact Outcome.ne_panic_cases (decodeRouteConfig_wire O c hw).1 (fun _ => nofun) fun _ => nofun

theorem decodeChain_no_panic (O : Oracles) (fc : PFilterChain) (hw : fc.filters.all filterWire = true) :
    decodeChain F O fc ≠ .panic := by
  unfold decodeChain
  refine List.foldlRecOn (motive := fun acc => acc ≠ Outcome.panic) fc.filters _ nofun fun acc ha f hf => ?_
  have hf := List.all_eq_true.mp hw f hf
  refine Outcome.ne_panic_cases ha (fun _ => nofun) fun p => ?_
  cases f with
  | other => nofun
  | typed a =>
    cases a with
    | none => cases hf
    | some pl =>
      cases pl with
      | otherUrl => nofun
      | thrift p =>
        cases p with
        | badUrl | badBytes => nofun
        | ok tp =>
          dsimp only
          exact Outcome.ne_panic_cases (thriftRoutes_no_panic O tp hf) (fun _ => nofun) fun _ => nofun
      | hcm p =>
        cases p with
        | badUrl | badBytes => nofun
        | ok h =>
          dsimp only
          exact Outcome.ne_panic_cases (decodeHcm_no_panic O h hf) (fun _ => nofun) fun _ => nofun

theorem decodeListener_no_panic (O : Oracles) (l : PListener) (hw : listenerWire l = true) :
    decodeListener F O l ≠ .panic := by
  unfold decodeListener
  refine List.foldlRecOn (motive := fun acc => acc ≠ Outcome.panic) _ _ nofun fun acc ha fc hfc => ?_
  refine Outcome.ne_panic_cases ha (fun _ => nofun) fun p => ?_
  refine Outcome.ne_panic_cases (decodeChain_no_panic O fc (List.all_eq_true.mp hw fc hfc)) (fun _ => nofun) fun v => ?_
  dsimp only
  split <;> nofun

def slotWireL : PAny PListener → Bool
  | .ok l => listenerWire l
  | _ => true

/-- `UnmarshalLDS` (with its nested HttpConnectionManager, ThriftProxy, rate-limit and TypedStruct payloads)
never panics on anything `proto.Unmarshal` can hand it -/
theorem lds_no_panic (compiles : Oracles) (xs : List (PAny PListener))
    (h : xs.all slotWireL = true) : decodeLDS F compiles xs ≠ .panic := by
  induction xs with
  | nil => nofun
  | cons x xs ih =>
    rw [List.all_cons, Bool.and_eq_true] at h
    rw [decodeLDS]
    refine Outcome.ne_panic_cases (ih h.2) (fun _ => nofun) fun d => ?_
    cases x with
    | ok l =>
      dsimp only
      exact Outcome.ne_panic_cases (decodeListener_no_panic compiles l h.1) (fun _ => nofun) fun _ => nofun
    | _ => nofun

/-- a response decoded without an error had a listener message in every slot -/
theorem lds_errors_nil (compiles : Oracles) (xs : List (PAny PListener)) (d : Decoded DListener)
    (h : decodeLDS F compiles xs = .ok d) (he : d.errors = []) : ∀ x ∈ xs, ∃ l, x = .ok l := by
  induction xs generalizing d with
  | nil => nofun
  | cons x xs ih =>
    rw [decodeLDS] at h
    cases hr : decodeLDS F compiles xs with
    | ok d0 =>
      rw [hr] at h
      rw [List.forall_mem_cons]
      cases x with
      | ok l =>
        refine ⟨⟨l, rfl⟩, ih d0 hr ?_⟩
        dsimp only at h
        generalize decodeListener F compiles l = o at h
        cases o with
        | panic => cases h
        | err e => cases h; cases he
        | ok v => cases h; exact (List.append_eq_nil_iff.mp he).2
      | _ => cases h; cases he
    | _ => rw [hr] at h; cases h

/-- a resource slot with the wrong type URL or with bytes that are not a valid encoding is an error -/
theorem lds_bad_slot_is_error (compiles : Oracles) (xs ys : List (PAny PListener)) (d : Decoded DListener)
    (hb : ∃ pre post, xs = pre ++ PAny.badUrl :: post ∨ xs = pre ++ PAny.badBytes :: post)
    (h : decodeLDS F compiles xs = .ok d) : d.errors ≠ [] := by
  intro he
  have hall := lds_errors_nil compiles xs d h he
  obtain ⟨pre, post, rfl | rfl⟩ := hb
  · obtain ⟨_, hl⟩ := hall .badUrl (List.mem_append_right pre List.mem_cons_self)
    cases hl
  · obtain ⟨_, hl⟩ := hall .badBytes (List.mem_append_right pre List.mem_cons_self)
    cases hl

/-- clusters and load assignments: total by construction; rejected iff a slot is bad (the name table: `nds_error_iff`) -/
theorem cds_eds_error_iff (cs : List (DecodeCE.Slot DecodeCE.PCluster)) (es : List (DecodeCE.Slot DecodeCE.PCla)) :
    ((DecodeCE.decodeCDS cs).errors = 0 ↔ ∀ s ∈ cs, ∃ c, s = .ok c) ∧
    ((DecodeCE.decodeEDS es).errors = 0 ↔ ∀ s ∈ es, ∃ c, s = .ok c) :=
  ⟨C12.cds_error_iff cs, C12.eds_error_iff es⟩

theorem nds_error_iff (slots : List (DecodeCE.Slot (List (String × List String)))) :
    DecodeCE.decodeNDS slots = none ↔ (slots = [] ∨ ∃ rest, slots = .badUrl :: rest ∨ slots = .badBytes :: rest) := by
  cases slots with
  | nil => simp [DecodeCE.decodeNDS]
  | cons s rest => cases s <;> simp [DecodeCE.decodeNDS]

/-! non-vacuity: a tree that is not wire-producible does panic in the model (so the hypothesis is not decoration) -/
example : (match decodeRoute F ⟨fun _ => true, fun _ => true⟩ ⟨"r", some ⟨.pfx "/", []⟩, .route ⟨.weighted none, none, none⟩⟩ with | .panic => true | _ => false) = true := by decide +kernel
example : slotWireR (.ok ⟨"rc", [⟨"vh", [⟨"r", some ⟨.pfx "/", []⟩, .route ⟨.cluster "c", none, none⟩⟩]⟩]⟩) = true := by decide +kernel

end XdsVerif.Properties.C13
