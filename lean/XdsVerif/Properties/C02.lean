import XdsVerif.Properties.C03
import XdsVerif.Proofs.Seq
import XdsVerif.Properties.C01
import XdsVerif.Properties.C13
/-!
# C02 — each response is ACKed or NACKed correctly; a NACK changes nothing
About `step cfg s (.push r now)` in an arbitrary state `s` (hence at any point of any history).
-/
namespace XdsVerif.Properties.C02
open XdsVerif.Seq XdsVerif.Spec.Seq

theorem facts_seq : Generated.seq = Seq.expectedFacts := C01.facts_seq

/-- exactly one request is enqueued for a response of a watched type; it echoes the nonce, lists the
interest set, and carries the response's version without error detail iff every resource decoded,
otherwise the last accepted version with an error detail -/
theorem ack_exact (cfg : Cfg) (s s' : St) (r : Resp) (now : Nat) (ws : List Name)
    (hw : s.watched r.rt = some ws) (hs : step cfg s (.push r now) = some s') :
    ∃ q, s'.queue = s.queue ++ [q] ∧ q.rt = r.rt ∧ q.nonce = r.nonce ∧ q.names = ws ∧
      (r.decodes = true → q.version = r.version ∧ q.err = false) ∧
      (r.decodes = false → q.version = s.version r.rt ∧ q.err = true) := by
  cases step_iff.mp hs with
  | pushUnwatched _ _ hw' => cases hw.symm.trans hw'
  | pushNack _ hd =>
    exact ⟨_, rfl, rfl, if_pos rfl, mkReq_names _ _ _ _ hw, fun h => (nomatch hd.symm.trans h),
      fun _ => ⟨if_neg (fun h => nomatch h.2), rfl⟩⟩
  | pushTable _ hd | pushUpdate _ hd =>
    exact ⟨_, rfl, rfl, if_pos rfl, mkReq_names _ _ _ _ hw, fun _ => ⟨if_pos ⟨rfl, rfl⟩, rfl⟩,
      fun h => nomatch hd.symm.trans h⟩

/-- a rejected response leaves the cache, the name table, the acknowledged version, the interest set and
the access bookkeeping exactly as they were (only the nonce and the request queue change) -/
theorem nack_frame (cfg : Cfg) (s s' : St) (r : Resp) (now : Nat)
    (hd : r.decodes = false) (hs : step cfg s (.push r now) = some s') :
    s'.cache = s.cache ∧ s'.table = s.table ∧ s'.version = s.version ∧ s'.watched = s.watched ∧ s'.acc = s.acc := by
  cases step_iff.mp hs with
  | pushUnwatched => exact ⟨rfl, rfl, rfl, rfl, rfl⟩
  | pushNack => exact ⟨rfl, rfl, ack_version_nack .., rfl, rfl⟩
  | pushTable _ hd' | pushUpdate _ hd' => cases hd.symm.trans hd'

/-- responses of unknown or never-subscribed types are neither acknowledged nor applied -/
theorem unknown_ignored (cfg : Cfg) (s s' : St) :
    (step cfg s .pushUnknown = some s' → s' = s) ∧
    (∀ r now, s.watched r.rt = none → step cfg s (.push r now) = some s' → s' = s) := by
  constructor
  · intro h; cases step_iff.mp h; rfl
  · intro r now hw h
    cases step_iff.mp h with
    | pushUnwatched => rfl
    | pushNack ha | pushTable ha | pushUpdate ha => cases hw.symm.trans ha.watched

/-- the acknowledged version after any history is that of the most recent accepted response of the type -/
theorem version_is_last_accepted (cfg : Cfg) (ops : List Op) (s : St) (h : run cfg init ops = some s) (rt : RType) :
    s.version rt = versionAt ops.reverse rt :=
  (Agree.of_run h).version rt

/-- what is rejected: any undecodable slot rejects the whole response; an empty name-table response is rejected -/
theorem decodes_iff (r : Resp) :
    r.decodes = true ↔ (if r.rt = .nds then r.slots ≠ [] ∧ r.table.isSome = true else ∀ sl ∈ r.slots, sl.isGood = true) := by
  unfold Resp.decodes
  cases hr : r.rt <;> simp [List.length_pos_iff]

/-! ### what "undecodable" means: the slots of the state machine against the decoder model (C11–C13)

The state machine abstracts a response to a list of slots (`good name content` / `bad`). The decoder model works on
message trees. The two are tied here: a slot is `bad` exactly when the decoder model reports an error for that
resource, so "NACK" in `ack_exact` / `nack_frame` is "the decoder rejected something" and nothing else. -/

/-- the slots of a route-table response (content stamp = the table's name; the field content is C11) -/
def slotsOfRDS (xs : List (Decode.PAny Decode.PRouteConfiguration)) : List Slot :=
  xs.map (fun x => match x with
    | .ok c => if C13.rcValid c then .good c.name c.name else .bad
    | _ => .bad)

theorem slotsOfRDS_all_good (xs : List (Decode.PAny Decode.PRouteConfiguration)) :
    (slotsOfRDS xs).all Slot.isGood = xs.all C13.slotValidR := by
  rw [slotsOfRDS, List.all_map]
  refine congrArg xs.all (funext fun x => ?_)
  cases x with
  | badUrl | badBytes => rfl
  | ok c =>
    show Slot.isGood (if C13.rcValid c then _ else _) = C13.rcValid c
    cases C13.rcValid c <;> rfl

/-- **a route-table response is NACKed exactly when the decoder reports an error** (wrong type URL, invalid bytes, a
route without match or action), for every list of payloads `proto.Unmarshal` can produce -/
theorem rds_nack_iff_decoder_error (compiles : Decode.Oracles) (xs : List (Decode.PAny Decode.PRouteConfiguration))
    (hw : xs.all C13.slotWireR = true) (d : Decode.Decoded Decode.DRouteCfg)
    (h : Decode.decodeRDS C13.F compiles xs = .ok d) (version nonce : String) :
    ({ rt := .rds, version := version, nonce := nonce, slots := slotsOfRDS xs } : Resp).decodes = true ↔ d.errors = [] := by
  rw [C13.rds_error_iff_invalid compiles xs hw d h]
  simp only [Resp.decodes]
  rw [slotsOfRDS_all_good]

/-- clusters and load assignments: a slot is bad exactly when its payload has the wrong type URL or does not parse -/
def slotsOfCE {α : Type} (nameOf : α → Name) (xs : List (DecodeCE.Slot α)) : List Slot :=
  xs.map (fun x => match x with | .ok c => .good (nameOf c) (nameOf c) | _ => .bad)

theorem cds_nack_iff_decoder_error (cs : List (DecodeCE.Slot DecodeCE.PCluster)) (version nonce : String) :
    ({ rt := .cds, version := version, nonce := nonce, slots := slotsOfCE (·.name) cs } : Resp).decodes = true ↔
      (DecodeCE.decodeCDS cs).errors = 0 := by
  rw [C12.cds_error_iff cs]
  simp only [Resp.decodes, slotsOfCE, List.all_map, List.all_eq_true]
  refine forall_congr' fun s => imp_congr_right fun _ => ?_
  cases s <;> simp [Slot.isGood]

/-! non-vacuity: a NACK after an ACK keeps the version and the cache -/
example : (run C01.exCfg init (C01.exOps ++
    [.push { rt := .lds, version := "2", nonce := "c", slots := [.good "10.0.0.1_8888" "L2", .bad] } 0])).map
      (fun s => (s.version .lds, s.cache .lds "echo:8888", s.queue.map (fun q => (q.version, q.nonce, q.err))))
    = some ("1", some "L1", [("1", "c", true)]) := by decide +kernel

/-! ## The acknowledgement on its way to the wire (`Model/Flow.lean`)

`ack_exact` says which request `updateAndACK` hands to `sendRequest`. Between there and the control plane lie the bounded
channel and the sender. The acknowledging receiver is the `rResp / rAckLock / rAckEnq` thread of the request-path model. -/

theorem facts_flow : Generated.flow = Flow.expectedFacts := C03.facts_flow

/-- **exactly one request per response reaches the wire** while the stream lives: at quiescence of a stream that has
not failed, the wire is exactly the sequence of requests handed to `sendRequest` — the acknowledgement among them, once,
in its place — whatever else filled the channel in between -/
theorem ack_reaches_wire_once {α : Type} (ls : List (Flow.Lbl α)) (s : Flow.S α) (h : Flow.run C03.cap Flow.init ls = some s)
    (hn : Flow.NoFailure s) (hq : s.queue = []) (hi : Flow.inflight s = []) : s.sent.map (·.2) = s.enq :=
  C03.quiescent_wire_complete ls s h hn hq hi

/-- an acknowledgement is never discarded for lack of room: it is queued, sent, in `Send`, or lost together with its stream
(dropped after a failed `Send` / drained by the reconnect — nonces of a dead stream must not be echoed on the next, C04) -/
theorem ack_never_discarded {α : Type} (ls : List (Flow.Lbl α)) (s : Flow.S α) (h : Flow.run C03.cap Flow.init ls = some s) :
    ∀ r ∈ s.enq, r ∈ s.queue ∨ r ∈ s.sent.map (·.2) ∨ r ∈ Flow.inflight s ∨ r ∈ s.dropped.map (·.1) ∨ r ∈ s.drained :=
  C03.request_never_discarded ls s h

/-! non-vacuity: an acknowledgement (7) waits behind a stalled `Send` while two lookups fill the channel; it is sent once -/
example : (Flow.run 2 (Flow.init : Flow.S Nat)
    [.pStart 0 1, .pLock 0, .pEnq 0, .sTakeReq, .stall, .rResp 7, .rAckLock, .rAckEnq, .pStart 1 2, .pLock 1, .pEnq 1,
     .pStart 2 3, .pLock 2, .resume, .sSendDone, .sTakeReq, .pEnq 2, .sSendDone, .sTakeReq, .sSendDone, .sTakeReq, .sSendDone]).map
    (fun s => s.sent.map (·.2)) = some [1, 7, 2, 3] := by decide +kernel

/-! ## Bursts of rejected responses; an accepted response moves its own type's version only -/

/-- **any number of rejected responses in a row, of any types, change nothing**: the cache, the name table, every
acknowledged version, the interest sets and the access bookkeeping after the burst are those before it -/
theorem nack_burst_frame (cfg : Cfg) (rs : List (Resp × Nat)) (s s' : St)
    (hd : ∀ p ∈ rs, p.1.decodes = false)
    (hs : run cfg s (rs.map (fun p => Op.push p.1 p.2)) = some s') :
    s'.cache = s.cache ∧ s'.table = s.table ∧ s'.version = s.version ∧ s'.watched = s.watched ∧ s'.acc = s.acc := by
  induction rs generalizing s with
  | nil => cases hs; exact ⟨rfl, rfl, rfl, rfl, rfl⟩
  | cons p rest ih =>
    obtain ⟨s1, h1, hs⟩ := Option.bind_eq_some_iff.mp ((run_cons ..).symm.trans hs)
    obtain ⟨a1, a2, a3, a4, a5⟩ := nack_frame cfg s s1 p.1 p.2 (hd p List.mem_cons_self) h1
    obtain ⟨b1, b2, b3, b4, b5⟩ := ih s1 (fun q hq => hd q (List.mem_cons_of_mem _ hq)) hs
    exact ⟨b1.trans a1, b2.trans a2, b3.trans a3, b4.trans a4, b5.trans a5⟩

/-- an accepted response of a watched type sets the acknowledged version of its own type to the response's version and
leaves the acknowledged version of every other type alone -/
theorem accept_moves_own_version_only (cfg : Cfg) (s s' : St) (r : Resp) (now : Nat) (ws : List Name)
    (hw : s.watched r.rt = some ws) (hd : r.decodes = true) (hs : step cfg s (.push r now) = some s') :
    s'.version r.rt = r.version ∧ ∀ t, t ≠ r.rt → s'.version t = s.version t := by
  cases step_iff.mp hs with
  | pushUnwatched _ _ hw' => cases hw.symm.trans hw'
  | pushNack _ hd' => cases hd.symm.trans hd'
  | pushTable | pushUpdate => exact ⟨if_pos ⟨rfl, rfl⟩, fun t ht => if_neg (fun h => ht h.1)⟩

end XdsVerif.Properties.C02
