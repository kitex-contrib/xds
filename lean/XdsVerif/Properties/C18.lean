import XdsVerif.Proofs.Reg
import XdsVerif.Model.Handlers
import XdsVerif.Generated.Facts
/-!
# C18 — the server rate limit tracks the inbound listener
For every sequence of accepted listener updates (`inbound` = the reserved listener's entry of the update
map, absent when the response does not contain it) and every configured service port.
When two filter chains carry the same destination port the later one wins (modelled, outside the
property's "the chain").
-/
namespace XdsVerif.Properties.C18
open XdsVerif.Handlers

/-- bridge: handlers run before the cache write, and registration replays the cached map of the type -/
theorem facts_handlers : Generated.handlers.handlersFirst = true ∧ Generated.handlers.replayOnRegister = true := by decide +kernel

def run (port : Nat) (s : LimitSt) (us : List (Option Chains)) : LimitSt := us.foldl (limitApply port) s

/-- **the QPS limit after any non-empty sequence of updates is the one the latest inbound listener gives** -/
theorem limit_latest (port : Nat) (s : LimitSt) (us : List (Option Chains)) (u : Option Chains) :
    (run port s (us ++ [u])).qps = some (limitOf port u) := by
  simp [run, List.foldl_append, limitApply]

/-- the chain for the configured port, else the chain without a port, else unlimited; zero means unlimited -/
theorem limit_rule (port : Nat) (cs : Chains) :
    limitOf port (some cs) =
      match tokensFor cs port with
      | some t => if t = 0 then none else some t
      | none => match tokensFor cs 0 with
        | some t => if t = 0 then none else some t
        | none => none := by
  unfold limitOf
  dsimp only
  cases tokensFor cs port with
  | some t => rfl
  | none => cases tokensFor cs 0 <;> rfl

/-- a missing inbound listener means unlimited -/
theorem missing_listener_unlimited (port : Nat) : limitOf port none = none := rfl

/-- with distinct chain ports, `tokensFor` is the tokens-per-fill of *the* chain with that port -/
theorem tokens_of_unique_chain (cs : Chains) (port t : Nat)
    (hm : (port, some t) ∈ cs) (hu : ∀ c ∈ cs, c.1 = port → c = (port, some t)) :
    tokensFor cs port = some t := by
  unfold tokensFor
  cases hf : cs.reverse.find? (fun c => decide (c.1 = port ∧ c.2.isSome = true)) with
  | none => simpa using List.find?_eq_none.mp hf (port, some t) (List.mem_reverse.mpr hm)
  | some c =>
    have hc : c.1 = port ∧ c.2.isSome = true := by simpa using List.find?_some hf
    rw [hu c (List.mem_reverse.mp (List.mem_of_find?_eq_some hf)) hc.1]; rfl

/-- every change is pushed to the running server's limiter: once an updater is installed each update appends exactly one push -/
theorem every_change_pushed (port : Nat) (s : LimitSt) (us : List (Option Chains)) (h : s.hasUpdater = true) :
    (run port s us).pushed = s.pushed ++ us.map (limitOf port) ∧ (run port s us).hasUpdater = true := by
  induction us generalizing s with
  | nil => simp [run, h]
  | cons u us ih =>
    have h' : (limitApply port s u).hasUpdater = true := by simp [limitApply, h]
    have := ih (limitApply port s u) h'
    simp only [run, List.foldl_cons] at this ⊢
    rw [this.1]
    exact ⟨by simp [limitApply, h], this.2⟩

/-- a limiter created after updates were received starts from the current state: registration replays the cached
listener map, and the running server receives that state when it installs its updater -/
theorem late_registration (port : Nat) (u : Option Chains) :
    (limitInstall (limitApply port limitInit u)).pushed = [limitOf port u] := by
  simp [limitInstall, limitApply, limitInit]

/-! ## Which filters of the inbound listener count (S17) -/

/-- bridge: `getLimiterPolicy` reads HTTP connection managers only -/
theorem facts_limiter : Generated.limiterScope = .httpOnly := by decide +kernel

/-- **Thrift-proxy filters do not limit**: whatever Thrift-proxy filters the inbound listener carries, wherever they sit,
the limit is the one the HTTP connection managers give -/
theorem thrift_filters_do_not_limit (port : Nat) (fs : List NFilter) :
    limitOf port (some (chainsOf Generated.limiterScope fs)) =
      limitOf port (some (chainsOf .httpOnly (fs.filter (fun f => f.kind = .http)))) := by
  rw [facts_limiter]
  unfold chainsOf
  simp [List.filter_filter]

/-- S17 (kept as documentation; repaired by `5ec9d07`): reading every filter that carries an inline route table, a
Thrift-proxy filter — which always carries one, without port and without bucket — masked the limit of the filter chain
without a port: the server ran unlimited -/
theorem s17_thrift_masks_limit :
    limitOf 9090 (some (chainsOf .all [⟨.http, 0, some 5⟩, ⟨.thrift, 0, some 0⟩])) = none ∧
    limitOf 9090 (some (chainsOf .httpOnly [⟨.http, 0, some 5⟩, ⟨.thrift, 0, some 0⟩])) = some 5 := by decide +kernel

/-! non-vacuity -/
example : limitOf 8080 (some [(0, some 5), (8080, some 100), (9090, none)]) = some 100 := by decide +kernel
example : limitOf 7070 (some [(0, some 5), (8080, some 100)]) = some 5 := by decide +kernel
example : limitOf 8080 (some [(8080, some 0)]) = none := by decide +kernel

/-! ## A handler created while updates arrive (`Model/Reg.lean`) -/

theorem facts_registration : Generated.regShape = .atomic := by decide +kernel

/-- **a rate limit handler created at any moment tracks the latest state**: over every interleaving of accepted updates and
registrations (any number of handlers — one per client suite), every registered handler has completed for exactly the
content the cache holds; in particular a handler registered between two updates has seen the second one -/
theorem created_anytime_tracks_latest (ops : List Reg.Op) (s : Reg.S) (h : Reg.run Generated.regShape Reg.init ops = some s)
    (k v : Nat) (hk : k ∈ s.handlers) (hv : s.cache = some v) : s.applied k = some v :=
  Reg.applied_latest facts_registration ops s h k v hk hv

example : (Reg.run Generated.regShape Reg.init [.update 1, .regBegin 7, .update 2, .regBegin 8]).map
    (fun s => (s.cache, s.handlers, s.applied 7, s.applied 8)) = some (some 2, [7, 8], some 2, some 2) := by decide +kernel

/-! ## Updates and the server's installation of its updater, in any order -/

inductive LOp
  | upd (u : Option Chains)
  | install

def lstep (port : Nat) (s : LimitSt) : LOp → LimitSt
  | .upd u => limitApply port s u
  | .install => limitInstall s

/-- what the running server's limiter was told last is the limit in force -/
def Synced (s : LimitSt) : Prop := s.hasUpdater = true → s.pushed.getLast? = some (s.qps.getD (some 0))

/-- every step by itself tells the server's limiter (if there is one) the limit it leaves in force -/
theorem lstep_synced (port : Nat) (s : LimitSt) (o : LOp) : Synced (lstep port s o) := by
  cases o with
  | upd u =>
    intro hu
    have hu' : s.hasUpdater = true := by simpa [lstep, limitApply] using hu
    simp [lstep, limitApply, hu']
  | install =>
    intro _
    simp [lstep, limitInstall]

/-- **for every interleaving of listener updates and installations of the server's updater** (before the first update,
between two, after the last; more than once), as soon as the server has an updater the value it was given last is the limit
the latest inbound listener gives — the server is never left with a stale limit -/
theorem server_never_stale (port : Nat) (ops : List LOp) :
    Synced (ops.foldl (lstep port) limitInit) := by
  rcases List.eq_nil_or_concat ops with rfl | ⟨os, o, rfl⟩
  · intro h; cases h
  · rw [List.concat_eq_append, List.foldl_append]
    exact lstep_synced port _ o

/-- and that limit is the latest update's: after `… upd u` followed by any number of installations the server holds `limitOf port u` -/
theorem server_holds_latest (port : Nat) (ops : List LOp) (u : Option Chains) (k : Nat) :
    let s := (List.replicate (k + 1) LOp.install).foldl (lstep port) ((ops ++ [LOp.upd u]).foldl (lstep port) limitInit)
    s.pushed.getLast? = some (limitOf port u) := by
  intro s
  have hq (t : LimitSt) : ((List.replicate k LOp.install).foldl (lstep port) t).qps = t.qps :=
    List.foldlRecOn (motive := fun s : LimitSt => s.qps = t.qps) _ _ rfl fun s hs o ho => List.eq_of_mem_replicate ho ▸ hs
  -- the last installation pushes the limit in force, which installations do not change
  simp [s, List.replicate_succ', List.foldl_append, lstep, limitInstall, hq, limitApply]

example : ((([LOp.upd (some [(8080, some 5)]), .install, .upd (some [(8080, some 9)]), .install, .upd none] : List LOp).foldl
    (lstep 8080) limitInit).pushed) = [some 5, some 9, some 9, none] := by decide +kernel

end XdsVerif.Properties.C18
