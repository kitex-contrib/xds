import XdsVerif.Model.Middleware
import XdsVerif.Properties.C09
/-!
# C15 — the routing step decides the destination once and fails closed
-/
namespace XdsVerif.Properties.C15
open XdsVerif.Middleware XdsVerif.Route XdsVerif.Pick

abbrev PF : PickFacts := Generated.pick

/-- **a matched route that selects no cluster fails the call** (it does not fall through to a later route): the route
found by `matchRoute` is the first match whatever its cluster list is (`clusters_play_no_part_in_matching`), and with an
empty list the routing step ends in a routing error for every draw -/
theorem cluster_less_match_fails (F : PickFacts) (rx : String → String → Bool) (l : Listener) (named : String → Lk RouteCfg)
    (grpc : Bool) (md : Meta) (inv : Invocation) (draw : Nat) (r : Route)
    (hm : matchRoute rx (some l) (fun n => (named n).toOption) grpc md inv = .ok r) (hc : r.clusters = []) :
    routeCall F rx (.val l) named grpc md inv draw = .err := by
  simp [routeCall, hm, hc, pick]

/-- whether a route matches a call depends on its match condition alone - not on its clusters, weights or timeout -/
theorem clusters_play_no_part_in_matching (rx : String → String → Bool) (path : String) (md : Meta) (r : Route)
    (cs : List (String × Nat)) (t : Nat) :
    routeMatched rx path md { r with clusters := cs, timeoutMs := t } = routeMatched rx path md r := by
  simp [routeMatched]

/-- undecided destination, route found: tag = picked cluster, locked, timeout = route timeout, passed on exactly once -/
theorem mw_decides_once (c : Call) (cl : String) (t : Nat) (h : c.tag = none) :
    middleware c (.ok cl t) = { call := ⟨some cl, true, t⟩, nextCalls := 1, err := none } := by
  unfold middleware; simp [h]

/-- destination already decided: nothing changes, passed on exactly once, the router is not consulted -/
theorem mw_idempotent_when_tagged (c : Call) (k : String) (route : RouteOut) (h : c.tag = some k) :
    middleware c route = { call := c, nextCalls := 1, err := none } := by
  unfold middleware; simp [h]

/-- no route: routing error, not passed on, destination left undecided -/
theorem mw_fail_closed (c : Call) (h : c.tag = none) :
    middleware c .err = { call := c, nextCalls := 0, err := some .route } ∧ (middleware c .err).call.tag = none := by
  unfold middleware; simp [h]

/-- the retry-key computation makes the same routing decision as the middleware -/
theorem retry_key_same_routing (mm : Bool) (c : Call) (route : RouteOut) (method : String) (hp : route ≠ .panic) :
    (retryKey mm c route method).call = (middleware c route).call := by
  unfold retryKey middleware
  cases c.tag with
  | some k => rfl
  | none => cases route <;> simp_all

/-- after either step ran once the destination is decided or the step failed closed; running the
middleware afterwards changes nothing (decided once) -/
theorem decided_once (mm : Bool) (c : Call) (route route' : RouteOut) (method : String) (cl : String) (t : Nat)
    (hr : route = .ok cl t) :
    middleware (retryKey mm c route method).call route' =
      { call := (retryKey mm c route method).call, nextCalls := 1, err := none } := by
  subst hr
  unfold retryKey middleware
  cases h : c.tag <;> simp [h]

/-- **no panic**: whatever well-shaped answers the lookups give (errors or values), routing never panics -/
theorem route_never_panics (rx : String → String → Bool) (lis : Lk Listener) (named : String → Lk RouteCfg)
    (grpc : Bool) (md : Meta) (inv : Invocation) (draw : Nat)
    (hl : lis.wellShaped = true) (hn : ∀ n, (named n).wellShaped = true) :
    routeCall PF rx lis named grpc md inv draw ≠ .panic := by
  unfold routeCall
  cases lis with
  | err => simp
  | nilnil | typedNil => simp [Lk.wellShaped] at hl
  | val l =>
    simp only
    split
    · next r _ =>
      have := C09.never_panics (r.clusters.map (·.2)) draw
      split
      · split <;> simp
      · simp
      · next hp => exact absurd hp this
    · split
      · simp [hn]
      · simp
    · simp

/-- hence neither the middleware nor the retry-key computation panics -/
theorem steps_never_panic (rx : String → String → Bool) (lis : Lk Listener) (named : String → Lk RouteCfg)
    (grpc : Bool) (md : Meta) (inv : Invocation) (draw : Nat) (c : Call) (mm : Bool) (method : String)
    (hl : lis.wellShaped = true) (hn : ∀ n, (named n).wellShaped = true) :
    (middleware c (routeCall PF rx lis named grpc md inv draw)).panicked = false ∧
    (retryKey mm c (routeCall PF rx lis named grpc md inv draw) method).panicked = false := by
  have h := route_never_panics rx lis named grpc md inv draw hl hn
  unfold middleware retryKey
  cases c.tag with
  | some k => exact ⟨rfl, rfl⟩
  | none =>
    cases hr : routeCall PF rx lis named grpc md inv draw with
    | ok | err => exact ⟨rfl, rfl⟩
    | panic => exact absurd hr h

/-- a failed listener lookup is a routing error (fail closed at the first step) -/
theorem listener_failure_is_route_error (rx : String → String → Bool) (named : String → Lk RouteCfg)
    (grpc : Bool) (md : Meta) (inv : Invocation) (draw : Nat) :
    routeCall PF rx .err named grpc md inv draw = .err := rfl

/-! non-vacuity -/
example : middleware ⟨none, false, 0⟩ (.ok "c1" 250) = { call := ⟨some "c1", true, 250⟩, nextCalls := 1, err := none } := by decide +kernel
example : (routeCall PF (fun _ _ => false) (.val ⟨[⟨false, "rc", 0, none⟩]⟩) (fun _ => .err) true [] ⟨"p", "s", "m", "m"⟩ 0) = .err := by decide +kernel

end XdsVerif.Properties.C15
