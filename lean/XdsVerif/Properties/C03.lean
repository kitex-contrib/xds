import XdsVerif.Proofs.Flow
import XdsVerif.Proofs.Seq
import XdsVerif.Proofs.Interest
import XdsVerif.Properties.C01
import XdsVerif.Proofs.Sys
/-!
# C03 — requests always carry exactly the current interest set of their type

Every operation of the state machine is one critical section of the code (`c.mu` / `m.mu`), so the
theorems below hold for every interleaving of lookups, evictions, responses, reconnects and sender
steps at that granularity; the atomicity of each section is the Go runtime's.
-/
namespace XdsVerif.Properties.C03
open XdsVerif.Seq XdsVerif.Spec.Seq

theorem facts_seq : Generated.seq = Seq.expectedFacts := C01.facts_seq

/-- a request built for a subscription change lists exactly the interest set *after* the change -/
theorem request_on_subscribe (cfg : Cfg) (s s' : St) (rt : RType) (n : Name) (hq : s.closed = false)
    (hs : step cfg s (.subscribe rt n) = some s') :
    ∃ q, s'.queue = s.queue ++ [q] ∧ q.rt = rt ∧ s'.watched rt = some q.names ∧ n ∈ q.names ∧ q.err = false := by
  cases step_iff.mp hs with
  | subscribeFull hb => cases hq.symm.trans hb.1
  | subscribe => exact ⟨_, rfl, rfl, watch_names .., mem_watch_add .., rfl⟩

/-- requests built for acknowledgements list the interest set, too -/
theorem request_on_ack (cfg : Cfg) (s s' : St) (r : Resp) (now : Nat) (ws : List Name)
    (hw : s.watched r.rt = some ws) (hs : step cfg s (.push r now) = some s') :
    ∃ q, s'.queue = s.queue ++ [q] ∧ q.rt = r.rt ∧ s'.watched r.rt = some q.names := by
  have hn := watched_eq_names (e := false) hw
  cases step_iff.mp hs with
  | pushUnwatched _ _ hw' => cases hw.symm.trans hw'
  | pushNack | pushTable | pushUpdate => exact ⟨_, rfl, rfl, hn⟩

/-- **the interest set changes only by subscription (a lookup missed) and eviction**: every other operation leaves it alone -/
theorem interest_changes_only (cfg : Cfg) (s s' : St) (op : Op)
    (hop : ∀ rt n, op ≠ .subscribe rt n) (hop2 : ∀ rt n t, op ≠ .evict rt n t)
    (hs : step cfg s op = some s') : s'.watched = s.watched := by
  cases step_iff.mp hs with
  | subscribe | subscribeFull => exact absurd rfl (hop _ _)
  | evict | evictFull => exact absurd rfl (hop2 _ _ _)
  | pushUnknown | pushUnwatched | pushNack | pushTable | pushUpdate | touch | authFail | reconnectDrain | publish
  | adoptClosed | adoptPartial | adoptAll | sendNowhere | sendFails | send => rfl

/-- membership in the interest set after any history: the most recent subscribe / evict of that name decides -/
theorem interest_is_history (cfg : Cfg) (ops : List Op) (s : St) (h : run cfg init ops = some s) (rt : RType) (n : Name) :
    ((s.watched rt).getD []).contains n = subscribedAt ops.reverse rt n :=
  (Agree.of_run h).watchedN rt n

/-- **on the live stream the last request of every watched type — sent or still queued — lists the interest set**
(unless a reconnect is in progress or the sender has lost its stream) -/
theorem last_request_tracks_interest (cfg : Cfg) (ops : List Op) (s : St) (h : run cfg init ops = some s)
    (hlive : ¬ Stale s) (rt : RType) (ws : List Name) (hw : s.watched rt = some ws) :
    lastNames rt (onStream s.recvStream s.wire ++ s.queue) = some ws :=
  (CInv.of_run h).li.resolve_left hlive rt ws hw

/-- **quiescence**: with an empty request queue, the last request of each type on the live stream equals the interest set -/
theorem quiescent_last_request (cfg : Cfg) (ops : List Op) (s : St) (h : run cfg init ops = some s)
    (hlive : ¬ Stale s) (hq : s.queue = []) (rt : RType) (ws : List Name) (hw : s.watched rt = some ws) :
    lastNames rt (onStream s.recvStream s.wire) = some ws := by
  simpa [hq] using last_request_tracks_interest cfg ops s h hlive rt ws hw

/-- what is queued is never out of date: the last queued request of a type lists the current interest set -/
theorem queue_never_stale (cfg : Cfg) (ops : List Op) (s : St) (h : run cfg init ops = some s) (hc : s.closed = false)
    (rt : RType) (ns : List Name) (hl : lastNames rt s.queue = some ns) : s.watched rt = some ns :=
  (CInv.of_run h).qi.resolve_left (ne_true_of_eq_false hc) rt ns hl

/-! ### with any number of concurrent lookups (`Model/Sys.lean`)

`Sys.run_seq`: a schedule of the composed system whose response handlers run their lock sections back to back is a
history of the state machine above, whatever the lookup threads do in between — each lookup's `Watch` call happens
inside its `m.mu` section and is one `subscribe` of that history. -/

/-- quiescence, concurrent form: lookups (hits, misses, repeated, concurrent for the same and for different names,
timing out or being answered), evictions, responses, reconnects in any interleaving -/
theorem quiescent_last_request_concurrent (cfg : Cfg) (V : Conc.Variant) (T : RType) (tn : Nat → Name)
    (ls : List Sys.Lbl) (s : Sys.St) (e : Sys.Emit) (ha : Sys.atomic ls = true)
    (h : Sys.run cfg V T tn Sys.init ls = some (s, e))
    (hlive : ¬ Stale s.seq) (hq : s.seq.queue = []) (rt : RType) (ws : List Name) (hw : s.seq.watched rt = some ws) :
    lastNames rt (onStream s.seq.recvStream s.seq.wire) = some ws :=
  quiescent_last_request cfg e.seq s.seq (Sys.run_seq cfg V T tn ls Sys.init s e rfl ha h).1 hlive hq rt ws hw

/-- the interest set under concurrency: the most recent subscribe (a lookup that created the notifier) or eviction
of the name decides, exactly as in the sequential history the schedule performed -/
theorem interest_is_history_concurrent (cfg : Cfg) (V : Conc.Variant) (T : RType) (tn : Nat → Name)
    (ls : List Sys.Lbl) (s : Sys.St) (e : Sys.Emit) (ha : Sys.atomic ls = true)
    (h : Sys.run cfg V T tn Sys.init ls = some (s, e)) (rt : RType) (n : Name) :
    ((s.seq.watched rt).getD []).contains n = subscribedAt e.seq.reverse rt n :=
  interest_is_history cfg e.seq s.seq (Sys.run_seq cfg V T tn ls Sys.init s e rfl ha h).1 rt n

/-- only the lookup that creates the notifier subscribes: a lookup that joins an existing notifier, is answered from
the cache, times out or is cancelled sends nothing -/
theorem only_notifier_creation_subscribes (cfg : Cfg) (V : Conc.Variant) (T : RType) (tn : Nat → Name)
    (s s' : Sys.St) (i : Nat) (e : Sys.Emit) (h : Sys.step cfg V T tn s (.getRegister i) = some (s', e)) :
    (e.seq = [] ∧ s'.seq = s.seq ∧ s'.conc.nextNf = s.conc.nextNf) ∨
    (e.seq = [.subscribe T (tn i)] ∧ s'.conc.nextNf ≠ s.conc.nextNf) := by
  cases Sys.step_inv cfg V T tn h with
  | register _ hnf => exact .inl ⟨rfl, rfl, hnf⟩
  | registerWatch _ hnf => exact .inr ⟨rfl, hnf⟩

/-! non-vacuity: three changes of one interest set, then quiescence -/
example : (run C01.exCfg init
    [.subscribe .cds "a", .subscribe .cds "b", .senderSend false, .senderSend false,
     .push { rt := .cds, version := "1", nonce := "x", slots := [.good "a" "1", .good "b" "2"] } 5, .senderSend false,
     .touch .cds "a" 5, .evict .cds "a" 40, .senderSend false]).map
    (fun s => (s.queue.length, lastNames .cds (onStream s.recvStream s.wire), s.watched .cds))
    = some (0, some ["b"], some ["b"]) := by decide +kernel

/-! ## The request path at goroutine granularity (`Model/Flow.lean`): the bounded channel, the sender, the client lock

`Seq` treats the channel as unbounded. The theorems below are about the machine that has the capacity the source
has (`Generated.seq.reqCap`), producers that wait for room while holding `c.mu`, a sender whose `Send` can be stalled
for any length of time, and reconnects; requests are opaque there, so they speak about every request alike —
subscription changes, acknowledgements, eviction notices. -/

theorem facts_flow : Generated.flow = Flow.expectedFacts := by decide +kernel

/-- the capacity of the request channel as the source has it -/
abbrev cap : Nat := Generated.seq.reqCap

/-- **each change is followed by a request** (channel level): a request handed to `sendRequest` is, at any later moment,
still queued, on the wire, in `Send`, dropped because the sender had no usable stream (a reconnect re-subscribes), or
drained by a reconnect (which re-subscribes); it is never silently discarded because the channel was full -/
theorem request_never_discarded {α : Type} (ls : List (Flow.Lbl α)) (s : Flow.S α) (h : Flow.run cap Flow.init ls = some s) :
    ∀ r ∈ s.enq, r ∈ s.queue ∨ r ∈ s.sent.map (·.2) ∨ r ∈ Flow.inflight s ∨ r ∈ s.dropped.map (·.1) ∨ r ∈ s.drained :=
  Flow.no_request_lost (Flow.reachable h)

/-- requests reach the control plane in the order they were produced, none twice: the last request of a type on the wire
is the last one produced (which lists the current interest set, `last_request_tracks_interest`) -/
theorem wire_in_production_order {α : Type} (ls : List (Flow.Lbl α)) (s : Flow.S α) (h : Flow.run cap Flow.init ls = some s) :
    (s.sent.map (·.2)).Sublist s.enq :=
  Flow.wire_subsequence (Flow.reachable h)

/-- **on a stream that has not failed, at quiescence the control plane has received exactly the requests produced, in
order** — however full the channel was on the way and however long `Send` was stalled (the stalled burst of the harness) -/
theorem quiescent_wire_complete {α : Type} (ls : List (Flow.Lbl α)) (s : Flow.S α) (h : Flow.run cap Flow.init ls = some s)
    (hn : Flow.NoFailure s) (hq : s.queue = []) (hi : Flow.inflight s = []) : s.sent.map (·.2) = s.enq :=
  Flow.live_wire_eq_enq (Flow.reachable h) hn hq hi

/-- … hence the last request of any kind (of any type) the control plane has received is the last one produced: with
`last_request_tracks_interest` (the last request produced for a type lists its interest set) this is "once the client is
quiescent the last request of each type on the live stream lists exactly the interest set", end to end -/
theorem quiescent_last_on_wire_is_last_produced {α : Type} (ls : List (Flow.Lbl α)) (s : Flow.S α)
    (h : Flow.run cap Flow.init ls = some s) (hn : Flow.NoFailure s) (hq : s.queue = []) (hi : Flow.inflight s = [])
    (p : α → Bool) : ((s.sent.map (·.2)).filter p).getLast? = (s.enq.filter p).getLast? := by
  rw [quiescent_wire_complete ls s h hn hq hi]

/-- **the glue between the two layers**: requests enter the channel in the order in which their producers took the client
lock (`lockSeq`), and on a live stream at quiescence that is the order on the wire. The operations of `Seq` are exactly
those lock sections (`Watch`, `updateAndACK`: change the interest set / the version, build the request, hand it over — one
`c.mu` section each), so `last_request_tracks_interest` — the last request *produced* for a type lists its interest set —
speaks about the last request *received* -/
theorem wire_follows_lock_order {α : Type} (ls : List (Flow.Lbl α)) (s : Flow.S α) (h : Flow.run cap Flow.init ls = some s)
    (hn : Flow.NoFailure s) (hq : s.queue = []) (hi : Flow.inflight s = []) (hc : s.cmu = none) (hcl : s.closed = false) :
    s.sent.map (·.2) = s.lockSeq :=
  Flow.live_wire_eq_lock_order (Flow.reachable h) hn hq hi hc hcl

/-- … and at any moment, not only at quiescence: what is in the channel and on its way was locked in that order -/
theorem enqueue_order_is_lock_order {α : Type} (ls : List (Flow.Lbl α)) (s : Flow.S α) (h : Flow.run cap Flow.init ls = some s)
    (hcl : s.closed = false) : s.lockSeq = s.enq ++ Flow.pendingLocked s :=
  (Flow.reachable h).lock hcl

/-- the channel never holds more than its capacity; a failed `Send` only ever happens on a dead stream -/
theorem channel_bounded {α : Type} (ls : List (Flow.Lbl α)) (s : Flow.S α) (h : Flow.run cap Flow.init ls = some s) :
    s.queue.length ≤ cap ∧ ∀ r k, (r, some k) ∈ s.dropped → s.dead k = true :=
  ⟨(Flow.reachable h).inv.bound, (Flow.reachable h).hist.dropDead⟩

/-! non-vacuity: three lookups miss while `Send` is stalled, the connection resumes, everything reaches the wire in order -/
example : (Flow.run 2 (Flow.init : Flow.S Nat)
    [.pStart 0 10, .pLock 0, .pEnq 0, .sTakeReq, .stall, .pStart 1 11, .pLock 1, .pEnq 1, .pStart 2 12, .pLock 2, .pEnq 2,
     .pStart 3 13, .pLock 3, .resume, .sSendDone, .sTakeReq, .pEnq 3, .sSendDone, .sTakeReq, .sSendDone, .sTakeReq, .sSendDone]).map
    (fun s => (s.sent, s.enq, s.queue)) = some ([(1, 10), (1, 11), (1, 12), (1, 13)], [10, 11, 12, 13], []) := by decide +kernel
/-- while the channel is full the fourth producer cannot enqueue -/
example : (Flow.run 2 (Flow.init : Flow.S Nat)
    [.pStart 0 10, .pLock 0, .pEnq 0, .sTakeReq, .stall, .pStart 1 11, .pLock 1, .pEnq 1, .pStart 2 12, .pLock 2, .pEnq 2,
     .pStart 3 13, .pLock 3, .pEnq 3]).isNone = true := by decide +kernel

end XdsVerif.Properties.C03
