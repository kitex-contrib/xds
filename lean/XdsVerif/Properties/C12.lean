import XdsVerif.Model.DecodeCE
/-!
# C12 — cluster, endpoint and name-table decoding preserves meaning
For all message trees (every field the decoders read, absent optional sub-messages, any number of
resources per response). `proto.Unmarshal` is trusted; the theorems start at its output.
-/
namespace XdsVerif.Properties.C12
open XdsVerif.DecodeCE XdsVerif.Resolve

/-- a cluster keeps its name, discovery type, LB policy, EDS service name (cluster name when none is given),
outlier percentages and inline endpoints -/
theorem cds_preserves (c : PCluster) :
    (decodeCluster c).1 = c.name ∧
    (decodeCluster c).2.endpointName = (if c.serviceName ≠ "" then c.serviceName else c.name) ∧
    (decodeCluster c).2.outlier = c.outlier.map (fun o => (o.threshold.getD 0, o.volume.getD 0)) ∧
    (decodeCluster c).2.inline = decodeCla c.inline ∧
    (decodeCluster c).2.discType = convType c.typ ∧ (decodeCluster c).2.lb = convLb c.lb :=
  ⟨rfl, rfl, rfl, rfl, rfl, rfl⟩

/-- the enum mappings, including the defaults for values the code does not know -/
theorem disc_type_map (n : Int) :
    convType n = (if n = 3 then .eds else if n = 2 then .logicalDns else if n = 0 then .static else .eds) := rfl
theorem lb_map (n : Int) : convLb n = (if n = 2 then .ringHash else .roundRobin) := rfl

/-- a load assignment keeps its localities and endpoints in order with address, port and weight;
an assignment without localities is the explicit "no endpoints" value -/
theorem eds_preserves (a : PCla) :
    (a.localities = [] → decodeCla (some a) = none) ∧
    (a.localities ≠ [] → ∃ e, decodeCla (some a) = some e ∧
        e.localities.length = a.localities.length ∧
        ∀ (i : Nat) (l : List PEndpoint), a.localities[i]? = some l →
          e.localities[i]? = some (l.map (fun p => (⟨joinHostPort p.host p.port, p.weight⟩ : Endpoint)))) :=
  ⟨fun h => if_pos (congrArg List.length h), fun h =>
    ⟨_, if_neg (mt List.length_eq_zero_iff.mp h), List.length_map _, fun i l hl => by
      rw [List.getElem?_map, hl]; rfl⟩⟩

/-- endpoints inside a locality keep their order and count -/
theorem endpoints_in_order (l : List PEndpoint) (j : Nat) (p : PEndpoint) (h : l[j]? = some p) :
    (l.map (fun p => (⟨joinHostPort p.host p.port, p.weight⟩ : Endpoint)))[j]? = some ⟨joinHostPort p.host p.port, p.weight⟩ := by
  rw [List.getElem?_map, h]; rfl

/-- the name table keeps every host with its addresses in order (first resource; an empty response is an error) -/
theorem nds_preserves (t : List (String × List String)) (rest : List (Slot (List (String × List String)))) :
    decodeNDS (.ok t :: rest) = some t ∧ decodeNDS ([] : List (Slot (List (String × List String)))) = none := ⟨rfl, rfl⟩

def lookupE {α} (l : List (String × α)) (k : String) : Option α := (l.find? (fun e => e.1 = k)).map (·.2)

theorem lookup_addEntry {α} (d : Decoded α) (k : String) (v : α) (k' : String) :
    lookupE (addEntry d k v).entries k' =
      if k' = k then (match lookupE d.entries k with | some w => some w | none => some v) else lookupE d.entries k' := by
  unfold addEntry lookupE
  rw [← List.isSome_find?]
  by_cases hk : k' = k
  · subst hk
    rw [if_pos rfl]
    cases hf : d.entries.find? (fun e => decide (e.1 = k')) with
    | some e => exact congrArg _ hf
    | none => exact congrArg _ (List.find?_cons_of_pos (by exact decide_eq_true rfl))
  · rw [if_neg hk]
    cases d.entries.find? (fun e => decide (e.1 = k)) with
    | some e => rfl
    | none => exact congrArg _ (List.find?_cons_of_neg fun h => hk (of_decide_eq_true h).symm)

theorem addEntry_errors {α} (d : Decoded α) (k : String) (v : α) : (addEntry d k v).errors = d.errors := by
  unfold addEntry; split <;> rfl

theorem addEntry_fresh {α} (d : Decoded α) (k : String) (v : α) (h : d.entries.any (fun e => e.1 = k) = false) :
    (addEntry d k v).entries = (k, v) :: d.entries := by
  unfold addEntry; simp [h]

theorem decodeCDS_cons_ok (c : PCluster) (rest : List (Slot PCluster)) :
    decodeCDS (.ok c :: rest) = addEntry (decodeCDS rest) c.name (decodeCluster c).2 := rfl

/-- with pairwise distinct names the table is the list of the decoded clusters, in the order sent -/
theorem cds_entries (cs : List PCluster) (hd : (cs.map (·.name)).Nodup) :
    (decodeCDS (cs.map .ok)).entries = cs.map decodeCluster ∧ (decodeCDS (cs.map .ok)).errors = 0 := by
  induction cs with
  | nil => exact ⟨rfl, rfl⟩
  | cons c cs ih =>
    rw [List.map_cons, List.nodup_cons] at hd
    obtain ⟨he, h0⟩ := ih hd.2
    rw [List.map_cons, decodeCDS_cons_ok, addEntry_errors, addEntry_fresh, he]
    · exact ⟨rfl, h0⟩
    · rw [he, List.any_map]
      exact Bool.eq_false_iff.mpr fun h =>
        hd.1 (List.mem_map.mpr ((List.any_eq_true.mp h).imp fun x hx => ⟨hx.1, of_decide_eq_true hx.2⟩))

/-- **resources are keyed by their own names; none is lost, duplicated or attributed to another name**:
with pairwise distinct names every cluster of the response is stored under its own name with its own content -/
theorem cds_keyed_by_own_name (cs : List PCluster) (hd : (cs.map (·.name)).Nodup) :
    (decodeCDS (cs.map .ok)).errors = 0 ∧
    (decodeCDS (cs.map .ok)).entries.length = cs.length ∧
    ∀ c ∈ cs, lookupE (decodeCDS (cs.map .ok)).entries c.name = some (decodeCluster c).2 := by
  rw [(cds_entries cs hd).1]
  refine ⟨(cds_entries cs hd).2, List.length_map .., fun c hc => ?_⟩
  induction cs with
  | nil => cases hc
  | cons x xs ih =>
    rw [List.map_cons, List.nodup_cons] at hd
    rw [lookupE, List.map_cons]
    rcases List.mem_cons.mp hc with rfl | hc
    · rw [List.find?_cons_of_pos]
      · rfl
      · exact decide_eq_true rfl
    · rw [List.find?_cons_of_neg]
      · exact ih hd.2 hc
      · exact fun e => hd.1 ((of_decide_eq_true e : x.name = c.name) ▸ List.mem_map_of_mem hc)

/-- duplicates of a name count once: the later resource wins (the behaviour of the Go map) -/
theorem cds_dup_last_wins (a b : PCluster) (h : a.name = b.name) :
    lookupE (decodeCDS [.ok a, .ok b]).entries a.name = some (decodeCluster b).2 := by
  rw [decodeCDS_cons_ok, lookup_addEntry, if_pos rfl, decodeCDS_cons_ok, lookup_addEntry, if_pos h]
  rfl

/-- `decodeCDS` and `decodeEDS` count errors the same way: one more at every slot that is not a message. Such a
count is zero exactly when every slot is a message. -/
theorem errors_zero_iff {α} (err : List (Slot α) → Nat) (h0 : err [] = 0)
    (hs : ∀ s rest, err (s :: rest) = match s with | .ok _ => err rest | _ => err rest + 1) (slots : List (Slot α)) :
    err slots = 0 ↔ ∀ s ∈ slots, ∃ c, s = .ok c := by
  induction slots with
  | nil => exact ⟨fun _ _ h => (nomatch h), fun _ => h0⟩
  | cons s rest ih =>
    rw [List.forall_mem_cons, ← ih, hs]
    cases s with
    | ok c => exact ⟨fun h => ⟨⟨c, rfl⟩, h⟩, fun h => h.2⟩
    | _ => exact ⟨nofun, fun h => h.1.elim nofun⟩

/-- a response is rejected exactly when some resource has the wrong type URL or does not decode -/
theorem cds_error_iff (slots : List (Slot PCluster)) :
    (decodeCDS slots).errors = 0 ↔ ∀ s ∈ slots, ∃ c, s = .ok c :=
  errors_zero_iff (fun l => (decodeCDS l).errors) rfl
    (fun s rest => by cases s with | ok c => exact addEntry_errors .. | _ => rfl) slots

theorem eds_error_iff (slots : List (Slot PCla)) :
    (decodeEDS slots).errors = 0 ↔ ∀ s ∈ slots, ∃ c, s = .ok c :=
  errors_zero_iff (fun l => (decodeEDS l).errors) rfl
    (fun s rest => by cases s with | ok c => exact addEntry_errors .. | _ => rfl) slots

/-! non-vacuity -/
example : (decodeCluster ⟨"c", 3, 0, "", some ⟨"c", [[⟨"fd00::1", 80, 3⟩], []]⟩, some ⟨some 50, none⟩⟩).2
    = ⟨.eds, .roundRobin, "c", some ⟨[[⟨"[fd00::1]:80", 3⟩], []]⟩, some (50, 0)⟩ := by decide +kernel

end XdsVerif.Properties.C12
