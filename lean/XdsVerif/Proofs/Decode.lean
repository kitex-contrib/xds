import XdsVerif.Model.Decode
/-! Helper lemmas about the listener / route decoders (C11, C13).

The decoders spell every sequencing step out as a three-way `match` on an `Outcome`. Here that step gets a
name (`Outcome.bind`), and so does the loop that decodes a list element by element and stops at the first
failure (`Outcome.mapM`). `decodeRoutes`, `decodeVHosts` and `decodeThriftRoutes` are instances of the loop
(`…_eq_mapM`); what C11 and C13 say about them (no panic, success iff every element succeeds, one for one in
order) is proved once, for the loop. A `match` that is not a `bind` (an `err` turned into a collected message)
is taken apart with `Outcome.ne_panic_cases`. Also here: `BuildMatchers` as a fold (`buildMatchers_eq_foldl`,
`foldl_step_nodup`), and the trees `proto.Unmarshal` can produce (`routeWire`, `rcWire`). -/
namespace XdsVerif.Decode
open XdsVerif.Route

namespace Outcome
variable {α β : Type}

/-- `match x with | .panic => .panic | .err e => .err e | .ok a => k a`, as the decoders write it -/
def bind (x : Outcome α) (k : α → Outcome β) : Outcome β :=
  match x with
  | .panic => .panic
  | .err e => .err e
  | .ok a => k a

@[elab_as_elim]
theorem ne_panic_cases {motive : Outcome α → Prop} {x : Outcome α} (hx : x ≠ .panic)
    (err : ∀ e, motive (.err e)) (ok : ∀ a, motive (.ok a)) : motive x := by
  cases x with
  | panic => exact absurd rfl hx
  | err e => exact err e
  | ok a => exact ok a

theorem bind_ne_panic {x : Outcome α} {k : α → Outcome β} (hx : x ≠ .panic) (hk : ∀ a, k a ≠ .panic) :
    x.bind k ≠ .panic :=
  ne_panic_cases hx (fun _ => nofun) hk

theorem bind_eq_ok {x : Outcome α} {k : α → Outcome β} {b : β} :
    x.bind k = .ok b ↔ ∃ a, x = .ok a ∧ k a = .ok b := by
  cases x <;> simp [bind]

def isOk : Outcome α → Bool
  | .ok _ => true
  | _ => false

/-- decode the elements in order; the first `err` or `panic` is the result -/
def mapM (f : α → Outcome β) : List α → Outcome (List β)
  | [] => .ok []
  | x :: xs => (f x).bind fun y => (mapM f xs).bind fun ys => .ok (y :: ys)

theorem mapM_ne_panic {f : α → Outcome β} {xs : List α} (h : ∀ x ∈ xs, f x ≠ .panic) : mapM f xs ≠ .panic := by
  induction xs with
  | nil => nofun
  | cons x xs ih =>
    exact bind_ne_panic (h x List.mem_cons_self) fun _ =>
      bind_ne_panic (ih fun y hy => h y (List.mem_cons_of_mem x hy)) nofun

/-- when no element panics, neither does the loop, and it succeeds iff every element does -/
theorem mapM_wire {f : α → Outcome β} {p : α → Bool} {xs : List α} (h : ∀ x ∈ xs, f x ≠ .panic ∧ (f x).isOk = p x) :
    mapM f xs ≠ .panic ∧ (mapM f xs).isOk = xs.all p := by
  refine ⟨mapM_ne_panic fun x hx => (h x hx).1, ?_⟩
  induction xs with
  | nil => rfl
  | cons x xs ih =>
    rw [List.all_cons, ← ih fun y hy => h y (List.mem_cons_of_mem x hy), ← (h x List.mem_cons_self).2, mapM]
    cases f x with
    | ok y => cases mapM f xs <;> rfl
    | _ => rfl

theorem mapM_eq_ok {f : α → Outcome β} {xs : List α} {ys : List β} (h : mapM f xs = .ok ys) :
    ys.length = xs.length ∧ ∀ (i : Nat) (x : α), xs[i]? = some x → ∃ y, ys[i]? = some y ∧ f x = .ok y := by
  induction xs generalizing ys with
  | nil => cases h; exact ⟨rfl, nofun⟩
  | cons x xs ih =>
    obtain ⟨y, hy, h⟩ := bind_eq_ok.mp h
    obtain ⟨ys', hys, h⟩ := bind_eq_ok.mp h
    cases h
    obtain ⟨hl, hi⟩ := ih hys
    refine ⟨congrArg (· + 1) hl, fun i x' hx' => ?_⟩
    cases i with
    | zero => cases hx'; exact ⟨y, rfl, hy⟩
    | succ i => exact hi i x' hx'

end Outcome

/-- the matcher a header condition contributes, if it is *supported* (non-empty exact / prefix, non-empty compiling regex) -/
def supported (compiles : Oracles) (h : PHeader) : Option (String × Matcher) :=
  match h.spec with
  | .stringMatch (.exact s) => if s ≠ "" then some (h.name, .exact s) else none
  | .stringMatch (.pfx s) => if s ≠ "" then some (h.name, .pfx s) else none
  | .stringMatch (.safeRegex (some r)) => if r ≠ "" ∧ compiles.compiles r then some (h.name, .regex r) else none
  | _ => none

/-- one iteration of the loop of `BuildMatchers` (`buildMatchers_eq_foldl`) -/
def step (compiles : Oracles) (m : Headers) (h : PHeader) : Headers :=
  match supported compiles h with
  | some (k, v) => mapSet m k v
  | none => m

theorem buildMatchers_eq_foldl (compiles : Oracles) (hs : List PHeader) :
    buildMatchers compiles hs = hs.foldl (step compiles) [] := by
  unfold buildMatchers
  congr 1
  funext m h
  unfold step supported
  cases h.spec with
  | other => rfl
  | stringMatch p =>
    cases p with
    | exact s | pfx s => by_cases hs : s ≠ "" <;> simp [hs]
    | safeRegex r =>
      cases r with
      | none => rfl
      | some r => by_cases hr : r ≠ "" ∧ compiles.compiles r = true <;> simp [hr]
    | other => rfl

theorem mapSet_fresh (m : Headers) (k : String) (v : Matcher) (h : ∀ e ∈ m, e.1 ≠ k) : mapSet m k v = m ++ [(k, v)] := by
  unfold mapSet
  rw [List.filter_eq_self.mpr]
  intro e he; simp [h e he]

/-- with pairwise distinct names among the supported conditions, `BuildMatchers` keeps every one of them, in order -/
theorem foldl_step_nodup (compiles : Oracles) (hs : List PHeader) (acc : Headers)
    (hd : ((acc ++ hs.filterMap (supported compiles)).map (·.1)).Nodup) :
    hs.foldl (step compiles) acc = acc ++ hs.filterMap (supported compiles) := by
  induction hs generalizing acc with
  | nil => exact (List.append_nil acc).symm
  | cons h hs ih =>
    rw [List.filterMap_cons] at hd ⊢
    rw [List.foldl_cons, step]
    cases hsup : supported compiles h with
    | none => rw [hsup] at hd; exact ih acc hd
    | some kv =>
      rw [hsup] at hd
      dsimp only at hd ⊢
      rw [List.append_cons] at hd ⊢
      rw [mapSet_fresh, ih _ hd]
      intro e he hek
      rw [List.map_append, List.map_append, List.nodup_append, List.nodup_append] at hd
      exact hd.1.2.2 e.1 (List.mem_map_of_mem he) kv.1 (List.mem_map_of_mem List.mem_cons_self) hek

/-! ### trees `proto.Unmarshal` can produce: the pointers the decoders dereference directly are non-nil -/

def clusterSpecWire : PClusterSpec → Bool
  | .weighted none => false
  | _ => true

def routeWire (r : PRoute) : Bool :=
  match r.action with
  | .route a => clusterSpecWire a.spec
  | _ => true

def rcWire (c : PRouteConfiguration) : Bool := c.vhosts.all (fun v => v.routes.all routeWire)

/-! ### the list decoders as loops -/

theorem decodeRoutes_eq_mapM (F : DecodeFacts) (O : Oracles) (rs : List PRoute) :
    decodeRoutes F O rs = Outcome.mapM (decodeRoute F O) rs := by
  induction rs with
  | nil => rfl
  | cons r rs ih =>
    rw [decodeRoutes, Outcome.mapM, ← ih]
    cases decodeRoute F O r with
    | ok d => cases decodeRoutes F O rs <;> rfl
    | _ => rfl

/-- one virtual host of `unmarshalRouteConfig` -/
def decodeVHost (F : DecodeFacts) (O : Oracles) (v : PVirtualHost) : Outcome DVirtualHost :=
  match decodeRoutes F O v.routes with
  | .panic => .panic
  | .err e => .err ("processing route in virtual host " ++ v.name ++ " failed: " ++ e)
  | .ok rs => .ok ⟨v.name, rs⟩

theorem decodeVHosts_eq_mapM (F : DecodeFacts) (O : Oracles) (vs : List PVirtualHost) :
    decodeVHosts F O vs = Outcome.mapM (decodeVHost F O) vs := by
  induction vs with
  | nil => rfl
  | cons v vs ih =>
    rw [decodeVHosts, Outcome.mapM, ← ih, decodeVHost]
    cases decodeRoutes F O v.routes with
    | ok d => cases decodeVHosts F O vs <;> rfl
    | _ => rfl

/-- one route of the `unmarshalThriftProxy` route loop -/
def decodeThriftRoute (O : Oracles) (r : PThriftRoute) : Outcome DRoute :=
  match r.mtch with
  | none => .err "no match in routeConfig"
  | some m =>
    match r.route with
    | none => .err "no action in routeConfig"
    | some a =>
      Outcome.bind
        (match a with
          | .cluster n => .ok [(n, 1)]
          | .weighted none => .panic
          | .weighted (some cs) => .ok (cs.map (fun c => (c.1, c.2.getD 0)))
          | .other => .ok [])
        fun clusters => .ok
          { mtch := .thrift { method := match m.spec with | .method s => s | _ => "",
                              service := match m.spec with | .service s => s | _ => "",
                              tags := buildMatchers O m.headers },
            clusters := clusters }

theorem decodeThriftRoutes_eq_mapM (O : Oracles) (rs : List PThriftRoute) :
    decodeThriftRoutes O rs = Outcome.mapM (decodeThriftRoute O) rs := by
  induction rs with
  | nil => rfl
  | cons r rs ih =>
    rw [decodeThriftRoutes, Outcome.mapM, ← ih, decodeThriftRoute]
    cases r.mtch with
    | none => rfl
    | some m =>
      cases r.route with
      | none => rfl
      | some a =>
        cases a with
        | cluster | other => cases decodeThriftRoutes O rs <;> rfl
        | weighted cs =>
          cases cs with
          | none => rfl
          | some l => cases decodeThriftRoutes O rs <;> rfl

end XdsVerif.Decode
