import XdsVerif.Model.Seq
/-!
# `Seq.step` as a relation

`Step cfg s op s'` has one constructor per enabled branch of `step` (`sendNowhere` stands for two): the guards of the
branch as hypotheses, the post-state as the model writes it. The two halves of `step_iff` are the only places where
`step` is unfolded; every proof about a step is a case analysis of `Step`, and what every step preserves is lifted to
histories by `run_induction`.
-/
namespace XdsVerif.Seq

/-- what a firing iteration of the cleaner leaves behind: the entry gone from cache and meta, the name withdrawn -/
def evicted (s : St) (rt : RType) (n : Name) : St :=
  watch { s with cache := fun t' m => if t' = rt ∧ m = n then none else s.cache t' m,
                 acc := fun t' m => if t' = rt ∧ m = n then none else s.acc t' m } rt n true

theorem evicted_cache (s : St) (rt : RType) (n : Name) (t : RType) (m : Name) :
    (evicted s rt n).cache t m = if t = rt ∧ m = n then none else s.cache t m := rfl

theorem evicted_acc (s : St) (rt : RType) (n : Name) (t : RType) (m : Name) :
    (evicted s rt n).acc t m = if t = rt ∧ m = n then none else s.acc t m := rfl

/-! The equations of `watch`, `ack` and `applyUpdate` that the proofs rewrite with. (What they do to `queue`, `issued`
and `acc` has none: it is read off the post-state.) -/

theorem watch_cache (s : St) (rt : RType) (n : Name) (rm : Bool) : (watch s rt n rm).cache = s.cache := rfl
theorem watch_table (s : St) (rt : RType) (n : Name) (rm : Bool) : (watch s rt n rm).table = s.table := rfl
theorem watch_version (s : St) (rt : RType) (n : Name) (rm : Bool) : (watch s rt n rm).version = s.version := rfl

theorem watch_watched (s : St) (rt : RType) (n : Name) (rm : Bool) (t : RType) :
    (watch s rt n rm).watched t =
      if t = rt then
        some (if rm then ((s.watched rt).getD []).filter (· ≠ n)
          else if ((s.watched rt).getD []).contains n then (s.watched rt).getD [] else (s.watched rt).getD [] ++ [n])
      else s.watched t := rfl

theorem ack_watched (s : St) (r : Resp) (ok : Bool) (sid : Nat) : (ack s r ok sid).watched = s.watched := rfl
theorem ack_table (s : St) (r : Resp) (ok : Bool) (sid : Nat) : (ack s r ok sid).table = s.table := rfl
theorem ack_cache (s : St) (r : Resp) (ok : Bool) (sid : Nat) : (ack s r ok sid).cache = s.cache := rfl

theorem ack_version (s : St) (r : Resp) (ok : Bool) (sid : Nat) (t : RType) :
    (ack s r ok sid).version t = if t = r.rt ∧ ok = true then r.version else s.version t := rfl

theorem ack_version_nack (s : St) (r : Resp) (sid : Nat) : (ack s r false sid).version = s.version :=
  funext fun _ => if_neg fun h => nomatch h.2

theorem ack_nonce (s : St) (r : Resp) (ok : Bool) (sid : Nat) (t : RType) :
    (ack s r ok sid).nonce t = if t = r.rt then r.nonce else s.nonce t := rfl

theorem applyUpdate_cache (s : St) (rt : RType) (up : Name → Option Val) (init : Option Nat) (t : RType) :
    (applyUpdate s rt up init).cache t =
      if t = rt then
        fun n => match up n with
          | some v => some v
          | none => if isFull rt then none else s.cache rt n
      else s.cache t := rfl

/-- a request built by `mkReq` for a watched type lists the interest set -/
theorem mkReq_names (s : St) (rt : RType) (e : Bool) (ws : List Name) (h : s.watched rt = some ws) :
    (mkReq s rt e).names = ws := by simp [mkReq, h]

theorem watched_eq_names {s : St} {rt : RType} {e : Bool} {ws : List Name} (h : s.watched rt = some ws) :
    s.watched rt = some (mkReq s rt e).names := by
  rw [mkReq_names s rt e ws h]; exact h

theorem watch_names (s : St) (rt : RType) (n : Name) (rm : Bool) :
    (watch s rt n rm).watched rt = some (mkReq (watch s rt n rm) rt false).names :=
  watched_eq_names (if_pos rfl)

/-- the client has stopped and its request channel is full: nobody will make room again -/
def Blocked (s : St) : Prop := s.closed = true ∧ ¬ s.queue.length < reqCap

theorem not_blocked {s : St} (hc : s.closed = false) : ¬ Blocked s := fun hb => nomatch hc.symm.trans hb.1

/-- the receiver handles a response of a watched type: it is not blocked in a reconnect, and (E2) the response
answers a request of that type on the receiver's stream -/
structure Answers (s : St) (r : Resp) (ws : List Name) : Prop where
  handoff : s.handoff = none
  closed : s.closed = false
  watched : s.watched r.rt = some ws
  nonce : r.nonce ≠ ""
  asked : ∃ kq ∈ s.wire, kq.1 = s.recvStream ∧ kq.2.rt = r.rt

inductive Step (cfg : Cfg) (s : St) : Op → St → Prop
  | pushUnknown (hh : s.handoff = none) (hc : s.closed = false) : Step cfg s .pushUnknown s
  | pushUnwatched {r now} (hh : s.handoff = none) (hc : s.closed = false) (hw : s.watched r.rt = none) :
      Step cfg s (.push r now) s
  | pushNack {r now ws} (ha : Answers s r ws) (hd : r.decodes = false) :
      Step cfg s (.push r now) (ack s r false s.recvStream)
  | pushTable {r now ws} (ha : Answers s r ws) (hd : r.decodes = true) (hrt : r.rt = .nds) :
      Step cfg s (.push r now) { ack s r true s.recvStream with table := r.table.getD [] }
  | pushUpdate {r now ws} (ha : Answers s r ws) (hd : r.decodes = true) (hrt : r.rt ≠ .nds) :
      Step cfg s (.push r now)
        (applyUpdate (ack s r true s.recvStream) r.rt (filtered cfg (ack s r true s.recvStream) r)
          (if cfg.metaInitNow then some now else none))
  | subscribe {rt n} (hb : ¬ Blocked s) : Step cfg s (.subscribe rt n) (watch s rt n false)
  /-- `sendRequest` gives up; the interest set has changed all the same -/
  | subscribeFull {rt n} (hb : Blocked s) (hab : cfg.sendAborts = true) :
      Step cfg s (.subscribe rt n) { watch s rt n false with queue := s.queue }
  | touch {rt n now} :
      Step cfg s (.touch rt n now)
        { s with acc := fun t m => if t = rt ∧ m = n then
                          (match s.acc rt n with | none => none | some _ => some (some now))
                        else s.acc t m }
  | evict {rt n now t} (hacc : s.acc rt n = some (some t)) (hr : ¬ (rt = .lds ∧ n = reserved)) (he : now - t > expire)
      (hb : ¬ Blocked s) : Step cfg s (.evict rt n now) (evicted s rt n)
  | evictFull {rt n now t} (hacc : s.acc rt n = some (some t)) (hr : ¬ (rt = .lds ∧ n = reserved)) (he : now - t > expire)
      (hb : Blocked s) (hab : cfg.sendAborts = true) :
      Step cfg s (.evict rt n now) { evicted s rt n with queue := s.queue }
  | authFail (hh : s.handoff = none) (hc : s.closed = false) : Step cfg s .authFail { s with closed := true }
  | reconnectDrain (hh : s.handoff = none) (hc : s.closed = false) :
      Step cfg s .reconnectDrain
        { s with nonce := fun _ => "", queue := [], recvStream := s.nextSid, nextSid := s.nextSid + 1,
                 handoff := some s.nextSid }
  | publish {k} (hh : s.handoff = some k) (hp : s.pending = none) :
      Step cfg s .publish { s with handoff := none, pending := some k }
  /-- the stream was closed with the client -/
  | adoptClosed {order upto k} (hp : s.pending = some k) (hc : s.closed = true) :
      Step cfg s (.senderAdopt order upto) { s with pending := none, senderStream := none }
  | adoptPartial {order upto k} (hp : s.pending = some k) (hc : s.closed = false)
      (hperm : isPerm order (watchedTypes s) = true) (hu : upto < order.length) :
      Step cfg s (.senderAdopt order upto)
        { s with pending := none, senderStream := none,
                 wire := s.wire ++ (order.map (fun rt => (k, mkReq s rt false))).take upto }
  | adoptAll {order upto k} (hp : s.pending = some k) (hc : s.closed = false)
      (hperm : isPerm order (watchedTypes s) = true) (hu : order.length ≤ upto) :
      Step cfg s (.senderAdopt order upto)
        { s with pending := none, senderStream := some k,
                 wire := s.wire ++ order.map (fun rt => (k, mkReq s rt false)) }
  /-- no stream to send on: the request is taken from the channel and lost -/
  | sendNowhere {fails q rest} (hq : s.queue = q :: rest) (hn : s.closed = true ∨ s.senderStream = none) :
      Step cfg s (.senderSend fails) { s with queue := rest }
  | sendFails {q rest k} (hq : s.queue = q :: rest) (hc : s.closed = false) (hk : s.senderStream = some k) :
      Step cfg s (.senderSend true) { s with queue := rest, senderStream := none }
  | send {q rest k} (hq : s.queue = q :: rest) (hc : s.closed = false) (hk : s.senderStream = some k) :
      Step cfg s (.senderSend false) { s with queue := rest, wire := s.wire ++ [(k, q)] }

/-- the test in front of every operation of the receiver, as `step` writes it (`Answers.of_tests`: with those in front of a
response of a watched type) -/
theorem receiving {s : St} (h : ¬ (s.handoff.isSome || s.closed) = true) : s.handoff = none ∧ s.closed = false := by
  simpa using h

theorem Answers.of_tests {s : St} {r : Resp} {ws : List Name} (hg : ¬ (s.handoff.isSome || s.closed) = true)
    (hw : s.watched r.rt = some ws) (hn : ¬ r.nonce = "")
    (hwire : ¬ ¬ (s.wire.any fun kq => decide (kq.1 = s.recvStream ∧ kq.2.rt = r.rt)) = true) : Answers s r ws :=
  ⟨(receiving hg).1, (receiving hg).2, hw, hn,
    (List.any_eq_true.mp (Decidable.not_not.mp hwire)).imp fun _ h => ⟨h.1, of_decide_eq_true h.2⟩⟩

theorem Step.of_step {cfg : Cfg} {s s' : St} {op : Op} (h : step cfg s op = some s') : Step cfg s op s' := by
  revert h
  -- one goal for every branch of `step`, in the order of its text; the branches that return `none` go with `injection`.
  -- `next` names the last hypotheses of a branch, which are what `step` meets on its way into it, in that order: a test
  -- (`hg`, `hn`, `hd`, …); the variable of a pattern (`_`: `ws`, `t`) and then the equation of its `match` (`hw`, `hacc`,
  -- `hq`, `hp`; for a `match` on two terms the equation of the second comes first: `hp hh`); a `let` (`_`; `dsimp` has
  -- put its value in)
  fun_cases step cfg s op
  all_goals intro h; injection h <;> subst_vars <;> dsimp -failIfUnchanged +zetaDelta only at *
  next hg => exact .pushUnknown (receiving hg).1 (receiving hg).2
  next hg hw => exact .pushUnwatched (receiving hg).1 (receiving hg).2 hw
  next hg _ hw hn hwire _ _ hd =>
    rw [Bool.not_eq_true'] at hd
    rw [hd]; exact .pushNack (.of_tests hg hw hn hwire) hd
  next hg _ hw hn hwire _ _ hd hrt =>
    rw [Bool.not_eq_true', Bool.not_eq_false] at hd
    rw [hd]; exact .pushTable (.of_tests hg hw hn hwire) hd hrt
  next hg _ hw hn hwire _ _ hd hrt =>
    rw [Bool.not_eq_true', Bool.not_eq_false] at hd
    rw [hd]; exact .pushUpdate (.of_tests hg hw hn hwire) hd hrt
  next hb hab => exact .subscribeFull hb hab
  next hb => exact .subscribe hb
  · exact .touch
  next hb _ hacc hx _ hf =>
    exact .evictFull hacc (fun hr => hx (.inl hr)) (Decidable.not_not.mp fun he => hx (.inr he)) hf
      (Decidable.not_not.mp fun hab => hb ⟨hf.1, hf.2, hab⟩)
  next _ _ hacc hx _ hf =>
    exact .evict hacc (fun hr => hx (.inl hr)) (Decidable.not_not.mp fun he => hx (.inr he)) hf
  next hg => exact .authFail (receiving hg).1 (receiving hg).2
  next hg => exact .reconnectDrain (receiving hg).1 (receiving hg).2
  next hp hh => exact .publish hh hp
  next hp hc => exact .adoptClosed hp hc
  next hp hc hperm _ hu =>
    rw [List.length_map] at hu
    exact .adoptPartial hp (Bool.of_not_eq_true hc) (by simpa using hperm) hu
  next hp hc hperm _ hu =>
    rw [List.length_map] at hu
    exact .adoptAll hp (Bool.of_not_eq_true hc) (by simpa using hperm) (Nat.le_of_not_lt hu)
  next hq hc => exact .sendNowhere hq (.inl hc)
  next hq hc hk => exact .sendNowhere hq (.inr hk)
  next hq hc _ hk => exact .sendFails hq (Bool.of_not_eq_true hc) hk
  next hq hc _ hk hf => rw [Bool.of_not_eq_true hf]; exact .send hq (Bool.of_not_eq_true hc) hk

theorem Step.step_eq {cfg : Cfg} {s s' : St} {op : Op} (h : Step cfg s op s') : step cfg s op = some s' := by
  cases h with
  | pushUnknown hh hc | authFail hh hc | reconnectDrain hh hc => simp [step, hh, hc]
  | pushUnwatched hh hc hw => simp [step, hh, hc, hw]
  | pushNack ha hd => simp [step, ha.handoff, ha.closed, ha.watched, ha.nonce, ha.asked, hd]
  | pushTable ha hd hrt => simp [step, ha.handoff, ha.closed, ha.watched, ha.nonce, ha.asked, hd, if_pos hrt]
  | pushUpdate ha hd hrt => simp [step, ha.handoff, ha.closed, ha.watched, ha.nonce, ha.asked, hd, if_neg hrt]
  | subscribe hb => exact if_neg hb
  | subscribeFull hb hab => exact (if_pos hb).trans (if_pos hab)
  | touch => rfl
  | evict hacc hr he hb =>
    rw [step, if_neg (fun h => hb ⟨h.1, h.2.1⟩), hacc]
    exact (if_neg (fun h => h.elim hr (fun h => h he))).trans (if_neg hb)
  | evictFull hacc hr he hb hab =>
    rw [step, if_neg (fun h => h.2.2 hab), hacc]
    exact (if_neg (fun h => h.elim hr (fun h => h he))).trans (if_pos hb)
  | publish hh hp => simp [step, hh, hp]
  | adoptClosed hp hc => simp [step, hp, hc]
  | adoptPartial hp hc hperm hu => simp [step, hp, hc, hperm, hu]
  | adoptAll hp hc hperm hu => simp [step, hp, hc, hperm, Nat.not_lt.mpr hu]
  | sendNowhere hq hn => rcases hn with h | h <;> simp [step, hq, h]
  | sendFails hq hc hk | send hq hc hk => simp [step, hq, hc, hk]

theorem step_iff {cfg : Cfg} {s s' : St} {op : Op} : step cfg s op = some s' ↔ Step cfg s op s' :=
  ⟨Step.of_step, Step.step_eq⟩

theorem run_cons (cfg : Cfg) (s : St) (o : Op) (os : List Op) :
    run cfg s (o :: os) = (step cfg s o).bind (run cfg · os) := by
  rw [run]
  cases step cfg s o <;> rfl

theorem run_singleton (cfg : Cfg) (s : St) (o : Op) : run cfg s [o] = step cfg s o :=
  (run_cons ..).trans (Option.bind_fun_some _)

theorem run_append (cfg : Cfg) (s : St) (a b : List Op) :
    run cfg s (a ++ b) = (run cfg s a).bind (fun s' => run cfg s' b) := by
  induction a generalizing s with
  | nil => rfl
  | cons o a ih =>
    rw [List.cons_append, run_cons, run_cons, Option.bind_assoc]
    exact congrArg _ (funext ih)

/-- induction over a history; `P` may speak of the history so far, most recent operation first -/
theorem run_induction {cfg : Cfg} {P : St → List Op → Prop}
    (hstep : ∀ {s s' op rops}, P s rops → Step cfg s op s' → P s' (op :: rops))
    {ops : List Op} {s s' : St} {rops : List Op} (h0 : P s rops) (h : run cfg s ops = some s') :
    P s' (ops.reverse ++ rops) := by
  induction ops generalizing s rops with
  | nil => cases h; exact h0
  | cons o os ih =>
    obtain ⟨s1, h1, h⟩ := Option.bind_eq_some_iff.mp ((run_cons ..).symm.trans h)
    rw [List.reverse_cons, List.append_assoc]
    exact ih (hstep h0 (.of_step h1)) h

end XdsVerif.Seq
