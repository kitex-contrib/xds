import XdsVerif.Model.Bootstrap
/-! Helper lemmas about the metadata object (C20). -/
namespace XdsVerif.Bootstrap

theorem set_cons (kv : String × JV) (rest : JObj) (k : String) (v : JV) :
    set (kv :: rest) k v = (if kv.1 = k then (kv.1, v) else kv) :: set rest k v := rfl

theorem lookup_set_self (o : JObj) (k : String) (v v0 : JV) (h : lookup o k = some v0) :
    lookup (set o k v) k = some v := by
  induction o with
  | nil => cases h
  | cons kv rest ih =>
    obtain ⟨k', w⟩ := kv
    rw [set_cons]
    by_cases hk : k' = k
    · simp only [hk, if_true, lookup]
    · rw [lookup, if_neg hk] at h
      simp only [hk, if_false, lookup, ih h]

theorem lookup_set_other (o : JObj) (k k2 : String) (v : JV) (h : k2 ≠ k) :
    lookup (set o k v) k2 = lookup o k2 := by
  induction o with
  | nil => rfl
  | cons kv rest ih =>
    obtain ⟨k', w⟩ := kv
    rw [set_cons]
    by_cases hk : k' = k
    · subst hk; simp only [if_true, lookup, if_neg (Ne.symm h), ih]
    · simp only [hk, if_false, lookup, ih]

end XdsVerif.Bootstrap
