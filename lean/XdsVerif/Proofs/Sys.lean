import XdsVerif.Model.Sys
import XdsVerif.Proofs.SeqStep
import XdsVerif.Proofs.Conc
/-!
# The composed system projects onto its component layers

* `run_conc`: **every** schedule of `Sys` (receiver sections torn apart or not) is, on the lookup side, a run of the
  interleaving model `Conc` — so the invariants and theorems of C05–C07 hold for lookups racing the *real* response
  handling (interest filter, acknowledgement, sender, cleaner), not just anonymous deliveries;
* `run_seq`: every schedule whose receiver sections are contiguous is, on the client side, a history of `Seq` — so
  C01–C04 and C19 hold under every interleaving with any number of concurrent lookups;
* `coupled_run`: both components always see the same cache (of the lookups' resource type).

All three are read off one inversion of `step` (`Step`, `step_inv`) and the characterisations of the three receiver
sections (`doAck_spec`, `doFilter_spec`, `doApply_spec`).
-/
namespace XdsVerif.Sys

/-! ### what is used of `Seq.step` -/

/-- client operations other than a response and an eviction never write the cache -/
theorem seq_step_cache {cfg : Seq.Cfg} {q q' : Seq.St} {o : Seq.Op} (h : Seq.step cfg q o = some q')
    (hp : ∀ r now, o ≠ .push r now) (he : ∀ rt n now, o ≠ .evict rt n now) : q'.cache = q.cache := by
  cases Seq.step_iff.mp h with
  | pushUnwatched | pushNack | pushTable | pushUpdate => exact absurd rfl (hp _ _)
  | evict | evictFull => exact absurd rfl (he _ _ _)
  | pushUnknown | subscribe | subscribeFull | touch | authFail | reconnectDrain | publish | adoptClosed | adoptPartial
  | adoptAll | sendNowhere | sendFails | send => rfl

theorem seq_evict_cache {cfg : Seq.Cfg} {q q' : Seq.St} {rt : Seq.RType} {n : Name} {now : Nat}
    (h : Seq.step cfg q (.evict rt n now) = some q') :
    ∀ t m, q'.cache t m = if t = rt ∧ m = n then none else q.cache t m := by
  cases Seq.step_iff.mp h with
  | evict | evictFull => exact fun _ _ => rfl

/-! ### the association list handed to `UpdateResource` is the filter, pointwise -/

theorem lookupL_filterMap (f : Name → Option Val) (ws : List Name) (n : Name) :
    Conc.lookupL (ws.filterMap (fun m => (f m).map (fun v => (m, v)))) n = if ws.contains n then f n else none := by
  induction ws with
  | nil => rfl
  | cons w rest ih =>
    have : Conc.lookupL ((w :: rest).filterMap (fun m => (f m).map (fun v => (m, v)))) n =
        (Conc.lookupL (rest.filterMap (fun m => (f m).map (fun v => (m, v)))) n).or (if w = n then f w else none) := by
      rw [List.filterMap_cons]
      cases f w with
      | none => simp
      | some v => exact Conc.lookupL_cons w v _ n
    rw [this, ih, List.contains_cons]
    by_cases hw : w = n
    · subst hw; cases rest.contains w <;> cases f w <;> simp
    · simp [hw, Ne.symm hw]

theorem lookupL_itemsOf (cfg : Seq.Cfg) (s : Seq.St) (r : Seq.Resp) :
    Conc.lookupL (itemsOf cfg s r) = Seq.filtered cfg s r := by
  funext n
  rw [itemsOf, lookupL_filterMap, Seq.filtered]
  cases s.watched r.rt with
  | none => rfl
  | some ws => exact ite_congr rfl (fun h => if_pos h) fun _ => rfl

/-! ### the three receiver sections -/

/-- Section 1 touches neither the lookups nor the cache. Either the response ends there (never-watched type, NACK, name
table) and the section is all of the atomic `push` of `Seq`, or the response stays in flight and the `push` is this
acknowledgement followed by `UpdateResource` of the filtered map. -/
theorem doAck_spec {s s1 : St} {r : Seq.Resp} (h : doAck s r = some s1) :
    s1.conc = s.conc ∧ s1.seq.cache = s.seq.cache ∧
    ((s1.inflight = none ∧ ∀ cfg now, Seq.Step cfg s.seq (.push r now) s1.seq) ∨
     (s1.inflight = some ⟨r, none⟩ ∧ ∀ cfg now, Seq.Step cfg s.seq (.push r now)
        (Seq.applyUpdate s1.seq r.rt (Seq.filtered cfg s1.seq r) (if cfg.metaInitNow then some now else none)))) := by
  revert h
  -- the four branches of `doAck` that answer, the tests that lead to each as hypotheses
  fun_cases doAck s r <;> intro h <;> cases h
  all_goals have hin : s.inflight = none := Option.not_isSome_iff_eq_none.mp ‹_›
  · exact ⟨rfl, rfl, .inl ⟨hin, fun _ _ => .pushUnwatched (Seq.receiving ‹_›).1 (Seq.receiving ‹_›).2 ‹_›⟩⟩
  all_goals have ha : Seq.Answers s.seq r _ := .of_tests ‹_› ‹_› ‹_› ‹_›
  · exact ⟨rfl, rfl, .inl ⟨hin, fun _ _ => .pushNack ha ‹_›⟩⟩
  · exact ⟨rfl, rfl, .inl ⟨hin, fun _ _ => .pushTable ha (Bool.of_not_eq_false ‹_›) ‹_›⟩⟩
  · exact ⟨rfl, rfl, .inr ⟨rfl, fun _ _ => .pushUpdate ha (Bool.of_not_eq_false ‹_›) ‹_›⟩⟩

variable (cfg : Seq.Cfg) (V : Conc.Variant) (T : Seq.RType) (tn : Nat → Name)

theorem doFilter_spec {s s' : St} (h : doFilter cfg s = some s') :
    s'.seq = s.seq ∧ s'.conc = s.conc ∧
      ∃ r, s.inflight = some ⟨r, none⟩ ∧ s'.inflight = some ⟨r, some (itemsOf cfg s.seq r)⟩ := by
  revert h
  fun_cases doFilter cfg s <;> intro h <;> cases h
  exact ⟨rfl, rfl, _, ‹_›, rfl⟩

/-- section 3 is `UpdateResource` of the map computed in section 2: on the client's cache, and as a `deliver` to the
lookups if the response is of their type -/
theorem doApply_spec {s s' : St} {now : Nat} {cl : List Conc.Lbl} (h : doApply cfg V T tn s now = some (s', cl)) :
    ∃ r items, s.inflight = some ⟨r, some items⟩ ∧ s'.inflight = none ∧
      s'.seq = Seq.applyUpdate s.seq r.rt (Conc.lookupL items) (if cfg.metaInitNow then some now else none) ∧
      ((r.rt = T ∧ cl = [.deliver (Seq.isFull T) items] ∧
          Conc.cstep V tn s.conc (.deliver (Seq.isFull T) items) = some s'.conc) ∨
       (r.rt ≠ T ∧ cl = [] ∧ s'.conc = s.conc)) := by
  revert h
  fun_cases doApply cfg V T tn s now <;> intro h <;> cases h
  · exact ⟨_, _, ‹_›, rfl, rfl, .inl ⟨‹_›, rfl, ‹_›⟩⟩
  · exact ⟨_, _, ‹_›, rfl, rfl, .inr ⟨‹_›, rfl, rfl⟩⟩

/-! ### one inversion of `step` -/

/-- A step of the composed system by its component steps: which `Conc.cstep`, which `Seq.step`, which receiver section. -/
inductive Step (s : St) : Lbl → St → Emit → Prop
  | getStart {i now c' q'} : Conc.cstep V tn s.conc (.getStart i) = some c' →
      Seq.step cfg s.seq (.touch T (tn i) now) = some q' →
      Step s (.getStart i now) { s with seq := q', conc := c' } { seq := [.touch T (tn i) now], conc := [.getStart i] }
  | getReread {i now c' q'} : Conc.cstep V tn s.conc (.getReread i) = some c' →
      Seq.step cfg s.seq (.touch T (tn i) now) = some q' →
      Step s (.getReread i now) { s with seq := q', conc := c' } { seq := [.touch T (tn i) now], conc := [.getReread i] }
  | getWake {i c'} : Conc.cstep V tn s.conc (.getWake i) = some c' →
      Step s (.getWake i) { s with conc := c' } { conc := [.getWake i] }
  | getDeadline {i c'} : Conc.cstep V tn s.conc (.getDeadline i) = some c' →
      Step s (.getDeadline i) { s with conc := c' } { conc := [.getDeadline i] }
  | getCleanup {i c'} : Conc.cstep V tn s.conc (.getCleanup i) = some c' →
      Step s (.getCleanup i) { s with conc := c' } { conc := [.getCleanup i] }
  /-- registration that finds the value or joins a notifier: no `Watch` -/
  | register {i c'} : Conc.cstep V tn s.conc (.getRegister i) = some c' → c'.nextNf = s.conc.nextNf →
      Step s (.getRegister i) { s with conc := c' } { conc := [.getRegister i] }
  /-- registration that creates the notifier calls `Watch` in the same section -/
  | registerWatch {i c' q'} : Conc.cstep V tn s.conc (.getRegister i) = some c' → c'.nextNf ≠ s.conc.nextNf →
      Seq.step cfg s.seq (.subscribe T (tn i)) = some q' →
      Step s (.getRegister i) { s with seq := q', conc := c' } { seq := [.subscribe T (tn i)], conc := [.getRegister i] }
  | recvAck {r s'} : doAck s r = some s' → Step s (.recvAck r) s' {}
  | recvFilter {s'} : doFilter cfg s = some s' → Step s .recvFilter s' {}
  | recvApply {now s' cl} : doApply cfg V T tn s now = some (s', cl) → Step s (.recvApply now) s' { conc := cl }
  /-- a response that ends in section 1 -/
  | pushAck {r now s1} : doAck s r = some s1 → s1.inflight = none → Step s (.op (.push r now)) s1 { seq := [.push r now] }
  | pushApply {r now s1 s2 s3 cl x} : doAck s r = some s1 → s1.inflight = some x → doFilter cfg s1 = some s2 →
      doApply cfg V T tn s2 now = some (s3, cl) → Step s (.op (.push r now)) s3 { seq := [.push r now], conc := cl }
  /-- the cleaner removes an entry the lookups read -/
  | evictBoth {rt n now q' c'} : Seq.step cfg s.seq (.evict rt n now) = some q' → rt = T →
      Conc.cstep V tn s.conc (.evict n) = some c' →
      Step s (.op (.evict rt n now)) { s with seq := q', conc := c' } { seq := [.evict rt n now], conc := [.evict n] }
  | evict {rt n now q'} : Seq.step cfg s.seq (.evict rt n now) = some q' → ¬ (rt = T ∧ (s.conc.cache n).isSome = true) →
      Step s (.op (.evict rt n now)) { s with seq := q' } { seq := [.evict rt n now] }
  | op {o q'} : (∀ r now, o ≠ .push r now) → (∀ rt n now, o ≠ .evict rt n now) →
      ¬ (receiverOp o = true ∧ s.inflight.isSome = true) → Seq.step cfg s.seq o = some q' →
      Step s (.op o) { s with seq := q' } { seq := [o] }

theorem step_inv {s s' : St} {l : Lbl} {e : Emit} (h : step cfg V T tn s l = some (s', e)) :
    Step cfg V T tn s l s' e := by
  revert h
  -- One goal for each branch of `step`, in its order, the tests that lead to it as hypotheses. Goals 15 to 17 are the
  -- receiver sections, which are `Option.map`s; of the others, those where `step` gives `none` go with `cases h`.
  fun_cases step cfg V T tn s l
  case case15 => intro h; obtain ⟨_, h1, ⟨⟩⟩ := Option.map_eq_some_iff.mp h; exact .recvAck h1
  case case16 => intro h; obtain ⟨_, h1, ⟨⟩⟩ := Option.map_eq_some_iff.mp h; exact .recvFilter h1
  case case17 => intro h; obtain ⟨_, h1, ⟨⟩⟩ := Option.map_eq_some_iff.mp h; exact .recvApply h1
  all_goals intro h; cases h
  · exact .getStart ‹_› ‹_›
  · exact .register ‹_› ‹_›
  · exact .registerWatch ‹_› ‹_› ‹_›
  · exact .getWake ‹_›
  · exact .getDeadline ‹_›
  · exact .getReread ‹_› ‹_›
  · exact .getCleanup ‹_›
  · exact .pushAck ‹_› ‹_›
  · exact .pushApply ‹_› ‹_› ‹_› ‹_›
  · next hb _ _ => exact .evictBoth ‹_› hb.1 ‹_›
  · exact .evict ‹_› ‹_›
  · exact .op ‹_› ‹_› ‹_› ‹_›

/-! ### projection onto the lookup layer: every step, torn receiver sections included -/

/-- a step either leaves the lookup side alone or is exactly one step of the interleaving model -/
theorem step_conc_one (s s' : St) (l : Lbl) (e : Emit) (h : step cfg V T tn s l = some (s', e)) :
    (e.conc = [] ∧ s'.conc = s.conc) ∨ ∃ l', e.conc = [l'] ∧ Conc.cstep V tn s.conc l' = some s'.conc := by
  have applied {s s' : St} {now cl} (h : doApply cfg V T tn s now = some (s', cl)) :
      (cl = [] ∧ s'.conc = s.conc) ∨ ∃ l', cl = [l'] ∧ Conc.cstep V tn s.conc l' = some s'.conc := by
    obtain ⟨_, _, _, _, _, h⟩ := doApply_spec cfg V T tn h
    exact h.symm.imp And.right fun h => ⟨_, h.2⟩
  cases step_inv cfg V T tn h with
  | getStart hc | getReread hc | getWake hc | getDeadline hc | getCleanup hc | register hc | registerWatch hc
  | evictBoth _ _ hc => exact .inr ⟨_, rfl, hc⟩
  | recvAck h1 | pushAck h1 => exact .inl ⟨rfl, (doAck_spec h1).1⟩
  | recvFilter h2 => exact .inl ⟨rfl, (doFilter_spec cfg h2).2.1⟩
  | recvApply h3 => exact applied h3
  | pushApply h1 _ h2 h3 =>
    have := applied h3
    rwa [(doFilter_spec cfg h2).2.1, (doAck_spec h1).1] at this
  | evict | op => exact .inl ⟨rfl, rfl⟩

theorem step_getWake {s : St} {i : Nat} {c' : Conc.S} (h : Conc.cstep V tn s.conc (.getWake i) = some c') :
    step cfg V T tn s (.getWake i) = some ({ s with conc := c' }, { conc := [.getWake i] }) := by
  rw [step, h]

/-- **every schedule of the composed system is a run of the interleaving model on the lookup side** -/
theorem run_conc (ls : List Lbl) (s s' : St) (e : Emit) (h : run cfg V T tn s ls = some (s', e)) :
    Conc.runL V tn s.conc e.conc = some s'.conc := by
  fun_induction run cfg V T tn s ls generalizing s' e <;> cases h
  · rfl
  -- the cons case of `run`: state, label, rest, what the step returns (`s1`, `e1`, with `h1`), what the rest returns
  -- (with `h2`), induction hypothesis
  · next s l _ s1 e1 h1 _ _ h2 ih =>
    have hstep : Conc.runL V tn s.conc e1.conc = some s1.conc := by
      rcases step_conc_one cfg V T tn s s1 l e1 h1 with ⟨he, hc⟩ | ⟨l', he, hc⟩
      · rw [he, hc]; rfl
      · rw [he, Conc.runL, hc]; rfl
    rw [Conc.runL_append, hstep]
    exact ih _ _ h2

/-! ### both components see one cache -/

/-- the lookups read the cache the client writes -/
def Coupled (s : St) : Prop := ∀ n, s.conc.cache n = s.seq.cache T n

theorem coupled_init : Coupled T init := by intro n; rfl

theorem Coupled.of_cache {T : Seq.RType} {s s' : St} (hC : Coupled T s) (hc : s'.conc.cache = s.conc.cache)
    (hq : s'.seq.cache = s.seq.cache) : Coupled T s' :=
  fun n => by rw [hc, hq]; exact hC n

theorem doApply_coupled {s s' : St} {now : Nat} {cl : List Conc.Lbl} (hC : Coupled T s)
    (h : doApply cfg V T tn s now = some (s', cl)) : Coupled T s' := by
  obtain ⟨r, items, _, _, hq, ⟨hrt, _, hc⟩ | ⟨hrt, _, hc⟩⟩ := doApply_spec cfg V T tn h <;> intro n
  · rw [Conc.cstep_deliver_cache hc n, hq, Seq.applyUpdate_cache, if_pos hrt.symm, hrt, hC n]
    rfl
  · rw [hc, hq, Seq.applyUpdate_cache, if_neg (Ne.symm hrt)]
    exact hC n

/-- **coupling is preserved by every step**, torn receiver sections included -/
theorem coupled_step {s s' : St} {l : Lbl} {e : Emit} (hC : Coupled T s)
    (h : step cfg V T tn s l = some (s', e)) : Coupled T s' := by
  cases step_inv cfg V T tn h with
  | getStart hc hq | getReread hc hq | registerWatch hc _ hq =>
    -- (a bare `nofun` for a side condition also splits what its binders range over, the `Resp` of `.push r now`, the name
    -- of `.evict n`: dear)
    exact hC.of_cache (Conc.cstep_cache hc (fun _ _ => nofun) fun _ => nofun)
      (seq_step_cache hq (fun _ _ => nofun) fun _ _ _ => nofun)
  | getWake hc | getDeadline hc | getCleanup hc | register hc =>
    exact hC.of_cache (Conc.cstep_cache hc (fun _ _ => nofun) fun _ => nofun) rfl
  | op hp he _ hq => exact hC.of_cache rfl (seq_step_cache hq hp he)
  | recvAck h1 | pushAck h1 => exact hC.of_cache (congrArg _ (doAck_spec h1).1) (doAck_spec h1).2.1
  | recvFilter h2 => exact hC.of_cache (congrArg _ (doFilter_spec cfg h2).2.1) (congrArg _ (doFilter_spec cfg h2).1)
  | recvApply h3 => exact doApply_coupled cfg V T tn hC h3
  | pushApply h1 _ h2 h3 =>
    have hC1 := hC.of_cache (congrArg _ (doAck_spec h1).1) (doAck_spec h1).2.1
    have hC2 := hC1.of_cache (congrArg _ (doFilter_spec cfg h2).2.1) (congrArg _ (doFilter_spec cfg h2).1)
    exact doApply_coupled cfg V T tn hC2 h3
  | @evictBoth rt n _ q' c' hq hrt hc =>
    intro m
    show c'.cache m = q'.cache T m
    simp only [Conc.cstep_evict_cache hc m, seq_evict_cache hq T m, hrt, hC m, true_and]
  | @evict rt n _ q' hq hb =>
    intro m
    show s.conc.cache m = q'.cache T m
    rw [seq_evict_cache hq T m]
    split
    · -- the client evicts an entry of the lookups' type that was not cached: nothing to remove
      next hm =>
      obtain ⟨rfl, rfl⟩ := hm
      exact Option.not_isSome_iff_eq_none.mp fun hs => hb ⟨rfl, hs⟩
    · exact hC m

theorem coupled_run (ls : List Lbl) (s s' : St) (e : Emit) (hC : Coupled T s)
    (h : run cfg V T tn s ls = some (s', e)) : Coupled T s' := by
  fun_induction run cfg V T tn s ls generalizing s' e <;> cases h
  · exact hC
  · next s l _ s1 e1 h1 _ _ h2 ih => exact ih _ _ (coupled_step cfg V T tn hC h1) h2

/-! ### projection onto the client layer: schedules whose receiver sections are contiguous -/

/-- `push_seq` in any state: section 1 runs only with no response in flight, so nothing need be assumed -/
theorem push_atomic {s s' : St} {r : Seq.Resp} {now : Nat} {e : Emit}
    (h : step cfg V T tn s (.op (.push r now)) = some (s', e)) :
    Seq.step cfg s.seq (.push r now) = some s'.seq ∧ s'.inflight = none ∧ e.seq = [.push r now] := by
  cases step_inv cfg V T tn h with
  | op hp => exact absurd rfl (hp r now)
  | pushAck h1 hnone =>
    obtain ⟨_, _, ⟨_, hq⟩ | ⟨hfl, _⟩⟩ := doAck_spec h1
    · exact ⟨(hq cfg now).step_eq, hnone, rfl⟩
    · cases hnone.symm.trans hfl
  | pushApply h1 hsome h2 h3 =>
    obtain ⟨_, _, ⟨hnone, _⟩ | ⟨hfl, hq⟩⟩ := doAck_spec h1
    · cases hnone.symm.trans hsome
    · obtain ⟨hq2, _, r', hr', hfl2⟩ := doFilter_spec cfg h2
      cases hfl.symm.trans hr'
      obtain ⟨r'', items, hfl3, hnone3, hq3, _⟩ := doApply_spec cfg V T tn h3
      cases hfl2.symm.trans hfl3
      exact ⟨by rw [(hq cfg now).step_eq, hq3, hq2, lookupL_itemsOf], hnone3, rfl⟩

/-- the three receiver sections back to back are the atomic `push` of `Seq` -/
theorem push_seq (s s' : St) (r : Seq.Resp) (now : Nat) (e : Emit) (hin : s.inflight = none)
    (h : step cfg V T tn s (.op (.push r now)) = some (s', e)) :
    Seq.step cfg s.seq (.push r now) = some s'.seq ∧ s'.inflight = none ∧ e.seq = [.push r now] :=
  push_atomic cfg V T tn h

theorem step_seq {s s' : St} {l : Lbl} {e : Emit} (hin : s.inflight = none) (hl : fine l = false)
    (h : step cfg V T tn s l = some (s', e)) : Seq.run cfg s.seq e.seq = some s'.seq ∧ s'.inflight = none := by
  cases step_inv cfg V T tn h with
  | recvAck | recvFilter | recvApply => cases hl
  | getStart _ hq | getReread _ hq | registerWatch _ _ hq | evictBoth hq | evict hq | op _ _ _ hq =>
    exact ⟨(Seq.run_singleton cfg _ _).trans hq, hin⟩
  | getWake | getDeadline | getCleanup | register => exact ⟨rfl, hin⟩
  | pushAck | pushApply =>
    obtain ⟨h1, h2, _⟩ := push_atomic cfg V T tn h
    exact ⟨(Seq.run_singleton cfg _ _).trans h1, h2⟩

/-- **every schedule whose receiver sections are contiguous is a history of the client state machine** — with any
number of lookups of type `T` running concurrently, at the granularity of `Get`'s lock sections -/
theorem run_seq (ls : List Lbl) (s s' : St) (e : Emit) (hin : s.inflight = none) (ha : atomic ls = true)
    (h : run cfg V T tn s ls = some (s', e)) : Seq.run cfg s.seq e.seq = some s'.seq ∧ s'.inflight = none := by
  fun_induction run cfg V T tn s ls generalizing s' e <;> cases h
  · exact ⟨rfl, hin⟩
  · next s l _ s1 e1 h1 _ _ h2 ih =>
    rw [atomic, List.all_cons, Bool.and_eq_true, Bool.not_eq_true'] at ha
    obtain ⟨hr1, hin1⟩ := step_seq cfg V T tn hin ha.1 h1
    obtain ⟨hr2, hin2⟩ := ih _ _ hin1 ha.2 h2
    exact ⟨by rw [Seq.run_append, hr1]; exact hr2, hin2⟩

end XdsVerif.Sys
