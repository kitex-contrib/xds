import XdsVerif.Model.Conc
/-! Invariant of the `Get` / `UpdateResource` interleavings for the variant the source has after the repairs
(re-check under the lock, last-waiter cleanup, checked re-read). Ported from DESIGN appendix E.2 and extended
with the waiter count.

Case analyses of a step go through one inversion of `cstep` (`CStep`, `cstep_inv`): a step is a delivery, an
eviction, or one section of `Get` (`Move`) that moves the pc of the thread running it and touches, of the shared
state, the notifier table only (`Move.frame`, `cstep_pc`). There is no converse: that a particular step is enabled is
shown by evaluating `cstep` on its guards.

The last section follows one thread through a whole execution: once its resource is in the cache and its deadline has
not fired (`Supplied`), no harmless step takes that away (`supplied_run`), and a delivery that names it puts it there
(`deliver_supplies`). -/
namespace XdsVerif.Conc

def attached (s : S) (i nf : Nat) : Prop := s.pc i = .waiting nf ∨ s.pc i = .timedOut nf

structure Inv (tn : Nat → Name) (s : S) : Prop where
  fresh   : ∀ n nf, s.notif n = some nf → nf < s.nextNf
  inj     : ∀ n m nf, s.notif n = some nf → s.notif m = some nf → n = m
  open_   : ∀ n nf, s.notif n = some nf → s.closed nf = false
  nocache : ∀ n nf, s.notif n = some nf → s.cache n = none
  /-- **WaitInv**: a thread waiting on an open notifier is reachable from the table under its own name -/
  wait    : ∀ i nf, s.pc i = .waiting nf → s.closed nf = false → s.notif (tn i) = some nf
  waitlt  : ∀ i nf, attached s i nf → nf < s.nextNf
  closedlt : ∀ nf, s.closed nf = true → nf < s.nextNf
  /-- the waiter count stored in a notifier bounds the number of threads attached to it -/
  cnt     : ∀ nf (L : List Nat), L.Nodup → (∀ i ∈ L, attached s i nf) → L.length ≤ s.waiters nf

theorem lookupL_cons (k : Name) (v : Val) (rest : List (Name × Val)) (n : Name) :
    lookupL ((k, v) :: rest) n = (lookupL rest n).or (if k = n then some v else none) := by
  rw [lookupL]
  cases lookupL rest n <;> rfl

theorem lookupL_isSome {items : List (Name × Val)} {n : Name} :
    (lookupL items n).isSome = true ↔ n ∈ items.map Prod.fst := by
  induction items with
  | nil => simp [lookupL]
  | cons kv rest ih =>
    rw [lookupL, List.map_cons, List.mem_cons, ← ih]
    cases lookupL rest n with
    | some u => simp
    | none =>
      by_cases hk : kv.1 = n
      · simp [hk]
      · simp [hk, Ne.symm hk]

/-! ### one inversion of `cstep` -/

/-- One section of `Get` run by thread `i`: its label, the notifier table it leaves (`t` is `s` up to `notif`, `waiters`,
`nextNf`) and the thread's next pc. The pc is an index so that `cases` on a move with a known target keeps only the
sections that lead there. -/
inductive Move (V : Variant) (tn : Nat → Name) (s : S) (i : Nat) : Lbl → S → PC → Prop
  | startHit {v} : s.pc i = .start → s.cache (tn i) = some v → Move V tn s i (.getStart i) s (.done (.val v))
  | startMiss : s.pc i = .start → s.cache (tn i) = none → Move V tn s i (.getStart i) s .missed
  | regHit {v} : s.pc i = .missed → V.recheckUnderLock = true → s.cache (tn i) = some v →
      Move V tn s i (.getRegister i) s (.done (.val v))
  | regJoin {nf} : s.pc i = .missed → (V.recheckUnderLock = true → s.cache (tn i) = none) → s.notif (tn i) = some nf →
      Move V tn s i (.getRegister i) (attachExisting s nf) (.waiting nf)
  | regNew : s.pc i = .missed → (V.recheckUnderLock = true → s.cache (tn i) = none) → s.notif (tn i) = none →
      Move V tn s i (.getRegister i) (attachNew s (tn i)) (.waiting s.nextNf)
  | wake {nf} : s.pc i = .waiting nf → s.closed nf = true → Move V tn s i (.getWake i) s .woken
  | deadline {nf} : s.pc i = .waiting nf → Move V tn s i (.getDeadline i) s (.timedOut nf)
  | rereadHit {v} : s.pc i = .woken → s.cache (tn i) = some v → Move V tn s i (.getReread i) s (.done (.val v))
  | rereadErr : s.pc i = .woken → s.cache (tn i) = none → V.checkReread = true →
      Move V tn s i (.getReread i) s (.done .err)
  | rereadNil : s.pc i = .woken → s.cache (tn i) = none → V.checkReread = false →
      Move V tn s i (.getReread i) s (.done .nilnil)
  | cleanupDelete {nf} : s.pc i = .timedOut nf → V.cleanup = .deleteEntry →
      Move V tn s i (.getCleanup i) { s with notif := fun m => if m = tn i then none else s.notif m } (.done .err)
  | cleanupDetach {nf} : s.pc i = .timedOut nf → V.cleanup = .lastWaiter → s.notif (tn i) = some nf →
      Move V tn s i (.getCleanup i) (detachLast s (tn i) nf) (.done .err)
  | cleanupKeep {nf} : s.pc i = .timedOut nf →
      V.cleanup = .other ∨ (V.cleanup = .lastWaiter ∧ s.notif (tn i) ≠ some nf) →
      Move V tn s i (.getCleanup i) s (.done .err)

/-- `cstep` as a relation: a section of `Get` installs the thread's next pc on the table the section leaves -/
inductive CStep (V : Variant) (tn : Nat → Name) (s : S) : Lbl → S → Prop
  | get {i l t p} : Move V tn s i l t p → CStep V tn s l (setPc t i p)
  | deliver (full items) : CStep V tn s (.deliver full items)
      { s with
        cache := fun n => match lookupL items n with
                          | some v => some v
                          | none => if full then none else s.cache n,
        notif := fun n => match lookupL items n with
                          | some _ => none
                          | none => s.notif n,
        closed := fun nf => s.closed nf || decide (∃ n ∈ items.map Prod.fst, s.notif n = some nf) }
  | evict (n) : ¬ (s.cache n).isNone = true →
      CStep V tn s (.evict n) { s with cache := fun m => if m = n then none else s.cache m }

section
variable {V : Variant} {tn : Nat → Name} {s s' : S} {l : Lbl}

theorem cstep_inv (h : cstep V tn s l = some s') : CStep V tn s l s' := by
  revert h
  -- one goal for each branch of `cstep`, the tests that lead to it as hypotheses; the branches that give `none` go at once
  fun_cases cstep V tn s l <;> intro h <;> cases h
  · exact .get (.startHit ‹_› ‹_›)
  · exact .get (.startMiss ‹_› ‹_›)
  · next hc =>
    split at hc
    · exact .get (.regHit ‹_› ‹_› hc)
    · cases hc
  · next hc _ _ => exact .get (.regJoin ‹_› (fun hV => (if_pos hV).symm.trans hc) ‹_›)
  · next hc _ => exact .get (.regNew ‹_› (fun hV => (if_pos hV).symm.trans hc) ‹_›)
  · exact .get (.wake ‹_› ‹_›)
  · exact .get (.deadline ‹_›)
  · exact .get (.rereadHit ‹_› ‹_›)
  · cases hV : V.checkReread
    · exact .get (.rereadNil ‹_› ‹_› hV)
    · exact .get (.rereadErr ‹_› ‹_› hV)
  · next t =>
    simp only [t]
    split
    · exact .get (.cleanupDelete ‹_› ‹_›)
    · split
      · exact .get (.cleanupDetach ‹_› ‹_› ‹_›)
      · exact .get (.cleanupKeep ‹_› (.inr ⟨‹_›, ‹_›⟩))
    · exact .get (.cleanupKeep ‹_› (.inl ‹_›))
  · exact .deliver ..
  · exact .evict _ ‹_›

theorem setPc_pc (s : S) (i j : Nat) (p : PC) : (setPc s i p).pc j = if j = i then p else s.pc j := rfl

theorem Move.frame {t : S} {i : Nat} {p : PC} (m : Move V tn s i l t p) :
    t.cache = s.cache ∧ t.closed = s.closed ∧ t.pc = s.pc := by
  cases m <;> exact ⟨rfl, rfl, rfl⟩

/-- a step changes the pc of thread `i` only as a section of `Get` run by `i` itself -/
theorem cstep_pc (h : cstep V tn s l = some s') (i : Nat) :
    s'.pc i = s.pc i ∨ ∃ t, Move V tn s i l t (s'.pc i) := by
  cases cstep_inv h with
  | deliver | evict => exact .inl rfl
  | @get j _ t p m =>
    rw [setPc_pc]
    split
    · next e => subst e; exact .inr ⟨t, m⟩
    · exact .inl (congrFun m.frame.2.2 i)

/-- the cache of a name changes only by an accepted update or an eviction (any shape of `Get`) -/
theorem cstep_cache (h : cstep V tn s l = some s')
    (hl : ∀ full items, l ≠ .deliver full items) (he : ∀ m, l ≠ .evict m) : s'.cache = s.cache := by
  cases cstep_inv h with
  | deliver full items => exact absurd rfl (hl full items)
  | evict m => exact absurd rfl (he m)
  | get m => exact m.frame.1

theorem cstep_evict_cache {n : Name} (h : cstep V tn s (.evict n) = some s') :
    ∀ m, s'.cache m = if m = n then none else s.cache m := by
  cases cstep_inv h with
  | evict => exact fun _ => rfl
  | get m => cases m

theorem cstep_deliver_cache {full : Bool} {items : List (Name × Val)}
    (h : cstep V tn s (.deliver full items) = some s') (n : Name) :
    s'.cache n = match lookupL items n with
                 | some v => some v
                 | none => if full then none else s.cache n := by
  cases h; rfl

theorem cstep_getWake {i nf : Nat} (hp : s.pc i = .waiting nf) (hc : s.closed nf = true) :
    cstep V tn s (.getWake i) = some (setPc s i .woken) := by
  rw [cstep, hp]
  exact if_pos hc

theorem cstep_closed (h : cstep V tn s l = some s')
    (hl : ∀ full items, l ≠ .deliver full items) : s'.closed = s.closed := by
  cases cstep_inv h with
  | deliver full items => exact absurd rfl (hl full items)
  | evict => rfl
  | get m => exact m.frame.2.1

/-! ### the invariant -/

theorem attached_setPc {t : S} {i j nf : Nat} {p : PC} (h : attached (setPc t i p) j nf) :
    (j = i ∧ (p = .waiting nf ∨ p = .timedOut nf)) ∨ (j ≠ i ∧ attached t j nf) := by
  unfold attached at h
  rw [setPc_pc] at h
  split at h
  · exact .inl ⟨‹_›, h⟩
  · exact .inr ⟨‹_›, h⟩

/-- At most `n` threads are attached to `nf`: the bound of `Inv.cnt`. (The threads cannot be enumerated, so the bound is
on every duplicate-free list of them.) -/
def AtMost (s : S) (nf n : Nat) : Prop := ∀ L : List Nat, L.Nodup → (∀ i ∈ L, attached s i nf) → L.length ≤ n

theorem AtMost.zero {nf : Nat} (h : ∀ i, ¬ attached s i nf) : AtMost s nf 0
  | [], _, _ => Nat.le_refl 0
  | a :: _, _, hL => absurd (hL a (List.mem_cons_self ..)) (h a)

/-- one thread moves: one more attached thread at most -/
theorem AtMost.join {t : S} {nf n i : Nat} {p : PC} (h : AtMost t nf n) : AtMost (setPc t i p) nf (n + 1) := by
  intro L hd hL
  -- the threads of `L` other than `i` were attached before
  have := h (L.erase i) (hd.erase i) fun j hj => by
    obtain ⟨hji, hj⟩ := hd.mem_erase_iff.mp hj
    exact ((attached_setPc (hL j hj)).resolve_left fun e => hji e.1).2
  have := List.le_length_erase (a := i) (l := L)
  omega

/-- initially the table is empty and no thread is attached: every field holds for want of a hypothesis -/
theorem inv_init (tn) : Inv tn init where
  fresh _ _ h := nomatch h
  inj _ _ _ h := nomatch h
  open_ _ _ h := nomatch h
  nocache _ _ h := nomatch h
  wait _ _ h := nomatch h
  waitlt _ _ h := h.elim nofun nofun
  closedlt _ h := nomatch h
  cnt _ := AtMost.zero fun _ h => h.elim nofun nofun

/-- moving thread `i` alone to a pc that does not wait and is attached to nothing new preserves `Inv` -/
theorem inv_setPc {i : Nat} {p : PC} (hI : Inv tn s) (hw : ∀ nf, p ≠ .waiting nf)
    (ht : ∀ nf, p = .timedOut nf → attached s i nf) : Inv tn (setPc s i p) := by
  have mono : ∀ j nf, attached (setPc s i p) j nf → attached s j nf := by
    intro j nf h
    rcases attached_setPc h with ⟨rfl, hp | hp⟩ | ⟨_, h⟩
    · exact absurd hp (hw nf)
    · exact ht nf hp
    · exact h
  exact { hI with
    wait := fun j nf hj hc => by
      rw [setPc_pc] at hj
      split at hj
      · exact absurd hj (hw nf)
      · exact hI.wait j nf hj hc
    waitlt := fun j nf h => hI.waitlt j nf (mono j nf h)
    cnt := fun nf L hd h => hI.cnt nf L hd fun j hj => mono j nf (h j hj) }

/-- thread `i` starts to wait on the notifier of its name, where the stored count has room for it -/
theorem inv_attach {i nf n : Nat} (hI : Inv tn s) (hn : s.notif (tn i) = some nf) (hroom : AtMost s nf n)
    (hw : s.waiters nf = n + 1) : Inv tn (setPc s i (.waiting nf)) :=
  { hI with
    wait := fun j nf' hj hcl => by
      rw [setPc_pc] at hj
      split at hj
      · cases hj; subst j; exact hn
      · exact hI.wait j nf' hj hcl
    waitlt := fun j nf' h => by
      rcases attached_setPc h with ⟨_, h | h⟩ | ⟨_, h⟩
      · cases h; exact hI.fresh _ _ hn
      · cases h
      · exact hI.waitlt j nf' h
    cnt := fun nf' L hd hL => by
      by_cases e : nf' = nf
      · subst e; exact hw ▸ hroom.join L hd hL
      · exact hI.cnt nf' L hd fun j hj => (attached_setPc (hL j hj)).elim
          (fun h => h.2.elim (fun h => absurd (PC.waiting.inj h).symm e) nofun) And.right }

/-- the stored count, and with it the bound, changes for one notifier -/
theorem AtMost.update {w : Nat → Nat} {nf k : Nat} (h : ∀ nf', AtMost s nf' (w nf')) (hk : AtMost s nf k) (nf' : Nat) :
    AtMost s nf' (if nf' = nf then k else w nf') := by
  split
  · subst nf'; exact hk
  · exact h nf'

/-- nobody is attached to the notifier created next -/
theorem Inv.unused (hI : Inv tn s) : AtMost s s.nextNf 0 :=
  AtMost.zero fun j h => Nat.lt_irrefl _ (hI.waitlt j _ h)

/-- the notifier of a name that is neither cached nor in the table is created, counting one waiter -/
theorem inv_attachNew {n : Name} (hI : Inv tn s) (hc : s.cache n = none) (hn : s.notif n = none) :
    Inv tn (attachNew s n) :=
  have kept {m nf} (h : (attachNew s n).notif m = some nf) : (m = n ∧ nf = s.nextNf) ∨ s.notif m = some nf := by
    dsimp only [attachNew] at h
    split at h
    · exact .inl ⟨‹_›, (Option.some.inj h).symm⟩
    · exact .inr h
  { fresh := fun m nf h => by
      rcases kept h with ⟨_, rfl⟩ | h
      · exact Nat.lt_succ_self _
      · exact Nat.lt_succ_of_lt (hI.fresh m nf h)
    inj := fun m k nf h1 h2 => by
      rcases kept h1 with ⟨em, e1⟩ | g1
      · rcases kept h2 with ⟨ek, _⟩ | g2
        · exact em.trans ek.symm
        · exact absurd (hI.fresh k nf g2) (e1 ▸ Nat.lt_irrefl _)
      · rcases kept h2 with ⟨_, e2⟩ | g2
        · exact absurd (hI.fresh m nf g1) (e2 ▸ Nat.lt_irrefl _)
        · exact hI.inj m k nf g1 g2
    open_ := fun m nf h => by
      rcases kept h with ⟨_, rfl⟩ | h
      · exact Bool.eq_false_iff.mpr fun hcl => Nat.lt_irrefl _ (hI.closedlt _ hcl)
      · exact hI.open_ m nf h
    nocache := fun m nf h => by
      rcases kept h with ⟨rfl, _⟩ | h
      · exact hc
      · exact hI.nocache m nf h
    wait := fun j nf hj hcl => by
      have hw := hI.wait j nf hj hcl
      exact (if_neg fun e => by rw [e, hn] at hw; cases hw).trans hw
    waitlt := fun j nf h => Nat.lt_succ_of_lt (hI.waitlt j nf h)
    closedlt := fun nf h => Nat.lt_succ_of_lt (hI.closedlt nf h)
    cnt := AtMost.update hI.cnt fun L hd hL => Nat.le_succ_of_le (hI.unused L hd hL) }

/-- a timed-out waiter of `nf` has moved on and is taken off the count; the entry goes with the last waiter -/
theorem inv_detach {n : Name} {nf : Nat} (hI : Inv tn s) (hent : s.notif n = some nf)
    (hcnt : AtMost s nf (s.waiters nf - 1)) : Inv tn (detachLast s n nf) :=
  have kept {m nf'} (h : (detachLast s n nf).notif m = some nf') : s.notif m = some nf' :=
    (Option.ite_none_left_eq_some.mp h).2
  { hI with
    fresh := fun m nf' h => hI.fresh m nf' (kept h)
    inj := fun m k nf' h1 h2 => hI.inj m k nf' (kept h1) (kept h2)
    open_ := fun m nf' h => hI.open_ m nf' (kept h)
    nocache := fun m nf' h => hI.nocache m nf' (kept h)
    wait := fun j nf' hj hcl => by
      -- **one caller's timeout affects only that caller**: a second waiter keeps the count, hence the entry
      have hw := hI.wait j nf' hj hcl
      refine Option.ite_none_left_eq_some.mpr ⟨fun ⟨hsame, h0⟩ => ?_, hw⟩
      cases (hsame ▸ hw).symm.trans hent
      have := hcnt [j] (List.pairwise_singleton _ j) (List.forall_mem_singleton.mpr (.inl hj))
      rw [h0] at this
      cases this
    cnt := AtMost.update hI.cnt hcnt }

theorem inv_step (hI : Inv tn s) (hs : cstep expectedVariant tn s l = some s') : Inv tn s' := by
  cases cstep_inv hs with
  | evict n _ =>
    exact { hI with
      nocache := fun m nf hm => ite_eq_left_iff.mpr fun _ => hI.nocache m nf hm }
  | deliver full items =>
    have kept {n nf} (h : (match lookupL items n with | some _ => none | none => s.notif n) = some nf) :
        lookupL items n = none ∧ s.notif n = some nf := by
      split at h
      · cases h
      · exact ⟨‹_›, h⟩
    exact { hI with
      fresh := fun n nf h => hI.fresh n nf (kept h).2
      inj := fun n m nf h1 h2 => hI.inj n m nf (kept h1).2 (kept h2).2
      open_ := fun n nf h => by
        obtain ⟨hl, h⟩ := kept h
        refine Bool.or_eq_false_iff.mpr ⟨hI.open_ n nf h, decide_eq_false fun ⟨m, hm, hmn⟩ => ?_⟩
        -- by `inj`, `m` is `n`, which was not delivered
        cases hI.inj n m nf h hmn
        exact Option.isSome_iff_ne_none.mp (lookupL_isSome.mpr hm) hl
      nocache := fun n nf h => by
        obtain ⟨hl, h⟩ := kept h
        simp only [hl, hI.nocache n nf h, ite_self]
      wait := fun j nf hj hcl => by
        obtain ⟨hcl, hno⟩ := Bool.or_eq_false_iff.mp hcl
        have hw := hI.wait j nf hj hcl
        -- the thread's name was not delivered, or its notifier would be closed now
        have hl : lookupL items (tn j) = none := Option.not_isSome_iff_eq_none.mp fun hv =>
          of_decide_eq_false hno ⟨tn j, lookupL_isSome.mp hv, hw⟩
        simp only [hl, hw]
      closedlt := fun nf h => (Bool.or_eq_true_iff.mp h).elim (hI.closedlt nf) fun h =>
        let ⟨m, _, hm⟩ := of_decide_eq_true h
        hI.fresh m nf hm }
  | @get i _ _ _ m =>
    -- A section that changes the table is the table update and the pc move one after the other, with `Inv` in between:
    -- a registration updates the table first (then `inv_attach`), a cleanup moves the pc first (`inv_setPc`).
    cases m with
    | rereadNil _ _ hV | cleanupDelete _ hV => cases hV
    | startHit | startMiss | regHit | wake | rereadHit | rereadErr | cleanupKeep => exact inv_setPc hI nofun nofun
    | deadline hp => exact inv_setPc hI nofun fun _ h => by cases h; exact .inl hp
    | @regJoin nf _ _ hn =>
      -- (`attachExisting` writes `waiters` only: the other clauses carry over as they stand)
      have hI' : Inv tn (attachExisting s nf) :=
        { hI with cnt := AtMost.update hI.cnt fun L hd hL => Nat.le_succ_of_le (hI.cnt nf L hd hL) }
      exact inv_attach hI' hn (hI.cnt nf) (if_pos rfl)
    | regNew _ hc hn =>
      exact inv_attach (inv_attachNew hI (hc rfl) hn) (if_pos rfl) hI.unused (if_pos rfl)
    | @cleanupDetach nf hp _ hent =>
      -- (pc move and table update commute) in between, the threads attached to `nf` are fewer than the stored count
      refine inv_detach (s := setPc s i (.done .err)) (inv_setPc hI nofun nofun) hent fun L hd hL => ?_
      have others j (hj : j ∈ L) : j ≠ i ∧ attached s j nf :=
        (attached_setPc (hL j hj)).resolve_left fun e => e.2.elim nofun nofun
      exact Nat.le_sub_one_of_lt <| hI.cnt nf (i :: L) (List.nodup_cons.mpr ⟨fun hi => (others i hi).1 rfl, hd⟩)
        (List.forall_mem_cons.mpr ⟨.inr hp, fun j hj => (others j hj).2⟩)

theorem runL_induction {P : S → Prop} {ls : List Lbl}
    (hstep : ∀ {s l s'}, l ∈ ls → P s → cstep V tn s l = some s' → P s') (hP : P s)
    (h : runL V tn s ls = some s') : P s' := by
  fun_induction runL V tn s ls
  · cases h; exact hP
  · next h1 ih => exact ih (fun hl => hstep (List.mem_cons_of_mem _ hl)) (hstep (List.mem_cons_self ..) hP h1) h
  · cases h

theorem runL_append (s : S) (a b : List Lbl) :
    runL V tn s (a ++ b) = (runL V tn s a).bind (fun s' => runL V tn s' b) := by
  fun_induction runL V tn s a <;> simp [runL, *]

theorem inv_reach {ls : List Lbl} (hI : Inv tn s) (h : runL expectedVariant tn s ls = some s') : Inv tn s' :=
  runL_induction (fun _ hI hs => inv_step hI hs) hI h

end

/-! ### no lost wake-up over whole executions -/

/-- steps that neither fire thread `i`'s deadline nor remove the name it looks up -/
def harmless (tn : Nat → Name) (i : Nat) : Lbl → Bool
  | .getDeadline j => j != i
  | .evict n => n != tn i
  | .deliver full items => !full || (lookupL items (tn i)).isSome
  | _ => true

/-- thread `i` has been supplied: the resource is in the cache, and the thread is not (and cannot get) stuck -/
structure Supplied (tn : Nat → Name) (i : Nat) (s : S) : Prop where
  cached : (s.cache (tn i)).isSome = true
  notStart : s.pc i ≠ .start
  woken : ∀ nf, s.pc i = .waiting nf → s.closed nf = true
  noTimeout : ∀ nf, s.pc i ≠ .timedOut nf
  noErr : s.pc i ≠ .done .err
  noNil : s.pc i ≠ .done .nilnil

variable {tn : Nat → Name} {i : Nat} {s s' : S}

/-- `Supplied` looks at the thread's cache entry, its pc and the closed notifiers only -/
theorem Supplied.mono (hG : Supplied tn i s)
    (hc : (s'.cache (tn i)).isSome = true) (hp : s'.pc i = s.pc i)
    (hcl : ∀ nf, s.closed nf = true → s'.closed nf = true) : Supplied tn i s' :=
  ⟨hc, hp ▸ hG.notStart, fun nf h => hcl nf (hG.woken nf (hp ▸ h)), fun nf => hp ▸ hG.noTimeout nf,
   hp ▸ hG.noErr, hp ▸ hG.noNil⟩

theorem supplied_setPc {p : PC} (hc : (s.cache (tn i)).isSome = true)
    (hp : p = .woken ∨ ∃ v, p = .done (.val v)) : Supplied tn i (setPc s i p) := by
  have hpc : (setPc s i p).pc i = p := if_pos rfl
  refine ⟨hc, ?_, ?_, ?_, ?_, ?_⟩ <;> rw [hpc] <;> rcases hp with rfl | ⟨v, rfl⟩ <;> nofun

theorem supplied_step {l : Lbl} (hG : Supplied tn i s)
    (hl : harmless tn i l = true) (hs : cstep expectedVariant tn s l = some s') : Supplied tn i s' := by
  cases cstep_inv hs with
  | deliver full items =>
    refine hG.mono ?_ rfl fun nf h => Bool.or_eq_true_iff.mpr (.inl h)
    rw [cstep_deliver_cache hs]
    cases hlk : lookupL items (tn i) with
    | some w => rfl
    | none =>
      -- a name the update does not carry stays, as the update is not full
      rw [harmless, hlk] at hl
      cases full
      · exact hG.cached
      · cases hl
  | evict n _ =>
    exact hG.mono ((congrArg Option.isSome (if_neg (bne_iff_ne.mp hl).symm)).trans hG.cached) rfl fun _ h => h
  | @get j _ t p m =>
    by_cases hij : i = j
    · subst hij
      -- the thread's own sections, with its entry cached
      cases m with
      | startHit hp | startMiss hp => exact absurd hp hG.notStart
      | regHit | rereadHit => exact supplied_setPc hG.cached (.inr ⟨_, rfl⟩)
      | wake => exact supplied_setPc hG.cached (.inl rfl)
      | regJoin _ hmiss | regNew _ hmiss => cases hmiss rfl ▸ hG.cached
      | deadline => exact absurd rfl (bne_iff_ne.mp hl)
      | rereadErr _ hnone | rereadNil _ hnone => cases hnone ▸ hG.cached
      | cleanupDelete hp | cleanupDetach hp | cleanupKeep hp => exact absurd hp (hG.noTimeout _)
    · obtain ⟨hc, hcl, hpc⟩ := m.frame
      exact hG.mono (show (t.cache (tn i)).isSome = true from hc ▸ hG.cached)
        (by rw [setPc_pc, if_neg hij, hpc]) fun nf h => show t.closed nf = true from hcl ▸ h

theorem supplied_run {ls : List Lbl} (hG : Supplied tn i s) (hl : ls.all (harmless tn i) = true)
    (h : runL expectedVariant tn s ls = some s') : Supplied tn i s' :=
  runL_induction (fun hm hG hs => supplied_step hG (List.all_eq_true.mp hl _ hm) hs) hG h

/-- the delivery itself supplies every unfinished, started thread of that name whose deadline has not fired -/
theorem deliver_supplies {full : Bool} {items : List (Name × Val)}
    (hI : Inv tn s) (hns : s.pc i ≠ .start) (hnt : ∀ nf, s.pc i ≠ .timedOut nf) (hnd : ∀ r, s.pc i ≠ .done r)
    (hmem : tn i ∈ items.map Prod.fst)
    (hs : cstep expectedVariant tn s (.deliver full items) = some s') : Supplied tn i s' := by
  cases hs
  obtain ⟨v, hv⟩ := Option.isSome_iff_exists.mp (lookupL_isSome.mpr hmem)
  refine ⟨by simp [hv], hns, fun nf hw => ?_, hnt, hnd _, hnd _⟩
  -- already closed, or closed now: the thread's entry is in the table under its name
  exact Bool.or_eq_true_iff.mpr <| (Bool.eq_false_or_eq_true (s.closed nf)).imp id fun hc =>
    decide_eq_true ⟨tn i, hmem, hI.wait i nf hw hc⟩

end XdsVerif.Conc
