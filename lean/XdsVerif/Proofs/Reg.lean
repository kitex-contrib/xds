import XdsVerif.Model.Reg
/-! Handler registration against updates (`Model/Reg.lean`): with the atomic shape every registered handler has completed
for the cached content, whatever the interleaving; the two torn shapes have closed counterexamples. The machine has three
operations: `step_atomic` unfolds its `step` directly. -/
namespace XdsVerif.Reg

/-- one step of the atomic shape keeps: no registration is between its two sections, and every registered handler has
completed for the cached content -/
theorem step_atomic {s s' : S} {o : Op} (hp : ∀ k, s.pending k = none) (hI : PolicyBeforeData s)
    (h : step .atomic s o = some s') : PolicyBeforeData s' ∧ ∀ k, s'.pending k = none := by
  cases o with
  | update v =>
    cases h
    refine ⟨fun k hk _ w hw => ?_, hp⟩
    cases hw
    exact if_pos (List.contains_iff_mem.mpr hk)
  | regBegin k =>
    simp only [step] at h
    split at h
    · cases h
    · cases hc : s.cache with
      | none =>
        rw [hc] at h; cases h
        exact ⟨fun _ _ _ w hw => absurd (hc.symm.trans hw) nofun, hp⟩
      | some v =>
        rw [hc] at h; cases h
        refine ⟨fun j hj _ w hw => ?_, hp⟩
        cases hc.symm.trans hw
        -- the new handler `k` gets the replayed `v`; the others keep what they had
        by_cases hjk : j = k
        · exact if_pos hjk
        · rcases List.mem_append.mp hj with hj | hj
          · exact (if_neg hjk).trans (hI j hj (by rw [hp j]; rfl) v hc)
          · exact absurd (List.mem_singleton.mp hj) hjk
  | regEnd k => simp [step, hp k] at h

/-- **policy before data, all interleavings**: with the atomic registration the source has, after any sequence of
updates and registrations (any number of handlers) every registered handler has completed for exactly the content a
lookup can see -/
theorem policy_before_data_all (ops : List Op) (s : S) (h : run .atomic init ops = some s) :
    PolicyBeforeData s ∧ ∀ k, s.pending k = none := by
  suffices H : ∀ s0 : S, (∀ k, s0.pending k = none) → PolicyBeforeData s0 →
      run .atomic s0 ops = some s → PolicyBeforeData s ∧ ∀ k, s.pending k = none from
    H init (fun _ => rfl) (fun _ hk => nomatch hk) h
  clear h
  intro s0 hp hI hr
  fun_induction run .atomic s0 ops
  · cases hr; exact ⟨hI, hp⟩
  · next h1 ih =>
    obtain ⟨hI1, hp1⟩ := step_atomic hp hI h1
    exact ih hp1 hI1 hr
  · cases hr

/-- so a handler registered at any moment has completed for the cached content (the shape enters through an equation, so
that the statement applies to the shape read from the source as it stands) -/
theorem applied_latest {shape : RegShape} (hs : shape = .atomic) (ops : List Op) (s : S)
    (h : run shape init ops = some s) (k v : Nat) (hk : k ∈ s.handlers) (hv : s.cache = some v) : s.applied k = some v :=
  have ⟨hI, hp⟩ := policy_before_data_all ops s (hs ▸ h)
  hI k hk (by rw [hp k]; rfl) v hv

/-- the torn shape "replay, then append": an update between the two sections reaches the cache but never the new
handler — lookups expose version 2 while the handler has completed for version 1 only -/
theorem torn_replay_then_append :
    (run .replayThenAppend init [.update 1, .regBegin 7, .update 2, .regEnd 7]).map
      (fun s => (s.cache, s.handlers, s.applied 7)) = some (some 2, [7], some 1) := by decide +kernel

/-- the torn shape "append, then replay outside the lock": the stale snapshot is applied on top of the newer update -/
theorem torn_append_then_replay :
    (run .appendThenReplay init [.update 1, .regBegin 7, .update 2, .regEnd 7]).map
      (fun s => (s.cache, s.handlers, s.applied 7)) = some (some 2, [7], some 1) := by decide +kernel

/-- non-vacuity: the same history with the atomic shape (the second operation of the torn registration does not exist) -/
example : (run .atomic init [.update 1, .regBegin 7, .update 2]).map
      (fun s => (s.cache, s.handlers, s.applied 7)) = some (some 2, [7], some 2) := by decide +kernel

end XdsVerif.Reg
