import XdsVerif.Proofs.SeqStep
import XdsVerif.Spec.Seq
/-! Refinement of the state machine to the backward-scan specification: `Agree` (C01, and through it C02–C04), and what
the fold serves read backwards (`served_cons_some`, `served_subscribed`). -/
namespace XdsVerif.Seq
open XdsVerif.Spec.Seq

theorem contains_filter_ne (l : List Name) (n m : Name) :
    (l.filter (· ≠ n)).contains m = if n = m then false else l.contains m := by
  rw [Bool.eq_iff_iff]
  by_cases h : n = m
  · simp [h]
  · simp [h, Ne.symm h]

theorem contains_add (l : List Name) (n m : Name) :
    (if l.contains n then l else l ++ [n]).contains m = if n = m then true else l.contains m := by
  by_cases h : n = m
  · subst h; rw [if_pos rfl]; split
    · assumption
    · simp
  · rw [if_neg h]; split
    · rfl
    · simp [Ne.symm h]

/-! What `Watch` does to the interest sets, in the two forms `Agree` reads them: is the type watched, is the name in the set. -/

theorem watch_watched_isSome (s : St) (rt : RType) (n : Name) (rm : Bool) (t : RType) :
    ((watch s rt n rm).watched t).isSome = (decide (rt = t) || (s.watched t).isSome) := by
  rw [watch_watched]
  by_cases h : t = rt
  · simp [h]
  · simp [h, Ne.symm h]

theorem watch_watched_contains (s : St) (rt : RType) (n : Name) (rm : Bool) (t : RType) (m : Name) :
    (((watch s rt n rm).watched t).getD []).contains m =
      if rt = t ∧ n = m then !rm else ((s.watched t).getD []).contains m := by
  rw [watch_watched]
  by_cases h : t = rt
  · subst h
    rw [if_pos rfl, Option.getD_some]
    cases rm
    · rw [if_neg nofun, contains_add]; simp
    · rw [if_pos rfl, contains_filter_ne]; simp
  · rw [if_neg h, if_neg (fun e => h e.1.symm)]

theorem mem_watch_add (s : St) (rt : RType) (n : Name) : n ∈ (mkReq (watch s rt n false) rt false).names := by
  show n ∈ ((watch s rt n false).watched rt).getD []
  simpa using watch_watched_contains s rt n false rt n

/-- the state agrees with the specification of the history -/
structure Agree (cfg : Cfg) (s : St) (rops : List Op) : Prop where
  cache : ∀ rt n, s.cache rt n = served cfg rops rt n
  watchedT : ∀ rt, (s.watched rt).isSome = typeWatchedAt rops rt
  watchedN : ∀ rt n, ((s.watched rt).getD []).contains n = subscribedAt rops rt n
  table : s.table = tableAt rops
  version : ∀ rt, s.version rt = versionAt rops rt

theorem agree_init (cfg : Cfg) : Agree cfg init [] := by
  constructor <;> intros <;> rfl

/-- the handler filters by the interest set and binds listeners through the name table as the specification does
(`updateAndACK` has run before it and touches neither) -/
theorem Agree.filtered_ack {cfg : Cfg} {s : St} {rops : List Op} (hA : Agree cfg s rops) {r : Resp} {ws : List Name}
    (hw : s.watched r.rt = some ws) (ok : Bool) (sid : Nat) (n : Name) :
    filtered cfg (ack s r ok sid) r n = carried cfg rops r n := by
  have hN : ws.contains n = subscribedAt rops r.rt n := by rw [← hA.watchedN, hw]; rfl
  rw [filtered, carried, ack_watched, ack_table, hw, ← hN, hA.table]
  rfl

theorem Agree.accepts {cfg : Cfg} {s : St} {rops : List Op} (hA : Agree cfg s rops) {r : Resp} {ws : List Name}
    (hw : s.watched r.rt = some ws) (hd : r.decodes = true) : accepted rops r = true := by
  rw [accepted, ← hA.watchedT, hw, hd]; rfl

theorem Agree.version_accepted {cfg : Cfg} {s : St} {rops : List Op} (hA : Agree cfg s rops) {r : Resp} {now : Nat}
    (hacc : accepted rops r = true) (sid : Nat) (t : RType) :
    (ack s r true sid).version t = versionAt (.push r now :: rops) t := by
  rw [ack_version, versionAt, hacc, hA.version]
  exact ite_cond_congr (propext (and_congr_left' eq_comm))

/-- a response that is not accepted is skipped by every function of the specification -/
theorem Agree.rejected {cfg : Cfg} {s : St} {rops : List Op} (hA : Agree cfg s rops) {r : Resp} (now : Nat)
    (hr : accepted rops r = false) : Agree cfg s (.push r now :: rops) :=
  { hA with
    cache := fun rt n => by rw [served, hr, if_neg (fun h => nomatch h.2.2)]; exact hA.cache rt n
    table := by rw [tableAt, hr, if_neg (fun h => nomatch h.2)]; exact hA.table
    version := fun rt => by rw [versionAt, hr, if_neg (fun h => nomatch h.2)]; exact hA.version rt }

theorem Agree.subscribe {cfg : Cfg} {s : St} {rops : List Op} (hA : Agree cfg s rops) (rt : RType) (n : Name) :
    Agree cfg (watch s rt n false) (.subscribe rt n :: rops) :=
  { hA with
    watchedT := fun t => by rw [watch_watched_isSome, hA.watchedT]; rfl
    watchedN := fun t m => by rw [watch_watched_contains, hA.watchedN]; rfl }

theorem Agree.evict {cfg : Cfg} {s : St} {rops : List Op} (hA : Agree cfg s rops) (rt : RType) (n : Name) (now : Nat) :
    Agree cfg (evicted s rt n) (.evict rt n now :: rops) :=
  { hA with
    cache := fun t m => by
      rw [evicted_cache, served, hA.cache]
      exact ite_cond_congr (propext (and_congr eq_comm eq_comm))
    watchedT := fun t => by rw [evicted, watch_watched_isSome, hA.watchedT]; rfl
    watchedN := fun t m => by rw [evicted, watch_watched_contains, hA.watchedN]; rfl }

/-- `Agree` reads the cache, the interest sets, the name table and the versions: a clause is restated only where the
operation writes one of these or the specification does not skip it -/
theorem agree_step {cfg : Cfg} {s s' : St} {op : Op} {rops : List Op} (hA : Agree cfg s rops)
    (hs : Step cfg s op s') : Agree cfg s' (op :: rops) := by
  cases hs with
  | pushUnknown | touch | authFail | reconnectDrain | publish | adoptClosed | adoptPartial | adoptAll
  | sendNowhere | sendFails | send => exact { hA with }
  -- (`Agree` does not read the queue, in which alone the `…Full` post-states differ)
  | subscribe | subscribeFull => exact { hA.subscribe _ _ with }
  | evict | evictFull => exact { hA.evict _ _ _ with }
  | @pushUnwatched r now _ _ hw => exact hA.rejected now (by rw [accepted, ← hA.watchedT, hw]; rfl)
  | @pushNack r now _ _ hd =>
    have hR := hA.rejected (r := r) now (by rw [accepted, hd, Bool.and_false])
    exact { hR with version := ack_version_nack s r _ ▸ hR.version }
  | @pushTable r now ws ha hd hrt =>
    have hacc := hA.accepts ha.watched hd
    exact { hA with
      cache := fun rt n => by
        rw [served, if_neg (fun h => h.2.1 (h.1.symm.trans hrt))]
        exact hA.cache rt n
      table := by simp [tableAt, hrt, hacc]
      version := hA.version_accepted hacc s.recvStream }
  | @pushUpdate r now ws ha hd hrt =>
    have hacc := hA.accepts ha.watched hd
    exact { hA with
      cache := fun rt n => by
        rw [applyUpdate_cache, served, hacc]
        by_cases h : rt = r.rt
        · subst h
          rw [if_pos rfl, if_pos (And.intro rfl (And.intro hrt rfl)), ack_cache, hA.cache, hA.filtered_ack ha.watched]
          cases carried cfg rops r n <;> rfl
        · rw [if_neg h, if_neg (fun h' => h h'.1.symm)]; exact hA.cache rt n
      table := by
        show s.table = tableAt (.push r now :: rops)
        rw [tableAt, if_neg (fun h => hrt h.1)]; exact hA.table
      version := hA.version_accepted hacc s.recvStream }

theorem Agree.of_run {cfg : Cfg} {ops : List Op} {s : St} (h : run cfg init ops = some s) : Agree cfg s ops.reverse := by
  have := run_induction (P := Agree cfg) agree_step (agree_init cfg) h
  rwa [List.append_nil] at this

/-! What the fold serves, read backwards (specification level). -/

theorem carried_subscribed {cfg : Cfg} {rest : List Op} {r : Resp} {n : Name} {v : Val}
    (h : carried cfg rest r n = some v) : subscribedAt rest r.rt n = true := by
  rw [carried] at h
  split at h
  · assumption
  · cases h

/-- one step of the fold: a served value was served before the operation, which is then not the eviction of that entry,
or the operation is an accepted response that carries it -/
theorem served_cons_some {cfg : Cfg} {op : Op} {rest : List Op} {rt : RType} {n : Name} {v : Val}
    (h : served cfg (op :: rest) rt n = some v) :
    (served cfg rest rt n = some v ∧ ∀ now, op ≠ .evict rt n now) ∨
    ∃ r now, op = .push r now ∧ r.rt = rt ∧ accepted rest r = true ∧ carried cfg rest r n = some v := by
  cases op with
  | push r now =>
    rw [served] at h
    by_cases hc : r.rt = rt ∧ rt ≠ .nds ∧ accepted rest r = true
    · rw [if_pos hc] at h
      cases hcar : carried cfg rest r n with
      | some w => rw [hcar] at h; exact .inr ⟨r, now, rfl, hc.1, hc.2.2, hcar.trans h⟩
      | none =>
        rw [hcar] at h
        by_cases hf : isFull rt = true
        · rw [if_pos hf] at h; cases h
        · rw [if_neg hf] at h; exact .inl ⟨h, fun _ e => nomatch e⟩
    · rw [if_neg hc] at h; exact .inl ⟨h, fun _ e => nomatch e⟩
  | evict rt' n' now =>
    rw [served] at h
    by_cases hc : rt' = rt ∧ n' = n
    · rw [if_pos hc] at h; cases h
    · rw [if_neg hc] at h; exact .inl ⟨h, fun _ e => hc (by cases e; exact ⟨rfl, rfl⟩)⟩
  | pushUnknown | subscribe | touch | authFail | reconnectDrain | publish | senderAdopt | senderSend =>
    exact .inl ⟨h, fun _ e => nomatch e⟩

theorem subscribedAt_cons {op : Op} {rest : List Op} {rt : RType} {n : Name} (h : subscribedAt rest rt n = true)
    (hop : ∀ now, op ≠ .evict rt n now) : subscribedAt (op :: rest) rt n = true := by
  cases op with
  | subscribe rt' n' => rw [subscribedAt]; split; rfl; exact h
  | evict rt' n' now => rw [subscribedAt, if_neg (fun hc => hop now (by rw [hc.1, hc.2]))]; exact h
  | push | pushUnknown | touch | authFail | reconnectDrain | publish | senderAdopt | senderSend => exact h

theorem served_subscribed (cfg : Cfg) (rops : List Op) (rt : RType) (n : Name) (v : Val)
    (h : served cfg rops rt n = some v) : subscribedAt rops rt n = true := by
  induction rops with
  | nil => cases h
  | cons op rest ih =>
    rcases served_cons_some h with ⟨h', hop⟩ | ⟨r, now, rfl, rfl, _, hc⟩
    · exact subscribedAt_cons (ih h') hop
    · exact (carried_subscribed hc :)

/-- **what is cached is subscribed**: in every reachable state of the client state machine a cached name is in
the interest set of its type (so it keeps receiving updates, and an eviction really unsubscribes) -/
theorem cached_is_subscribed (cfg : Cfg) (ops : List Op) (s : St) (h : run cfg init ops = some s)
    (rt : RType) (n : Name) (v : Val) (hc : s.cache rt n = some v) :
    ((s.watched rt).getD []).contains n = true := by
  have hA := Agree.of_run h
  rw [hA.watchedN rt n]
  apply served_subscribed cfg ops.reverse rt n v
  rw [← hA.cache rt n]; exact hc

end XdsVerif.Seq
