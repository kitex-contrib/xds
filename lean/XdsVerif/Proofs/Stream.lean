import XdsVerif.Proofs.SeqStep
/-!
# Per-stream nonces (C04): an invariant of every reachable state, arbitrary fault positions

Ported from the design prototype (DESIGN appendix E.5) to the full state machine.
-/
namespace XdsVerif.Seq

def okN (s : St) (k : Nat) (n : String) : Prop := n = "" ∨ (k, n) ∈ s.issued

structure SInv (s : St) : Prop where
  -- queued requests and the recorded nonces echo only nonces of the receiver's stream, a request on the wire only
  -- nonces of the stream it was sent on
  j1 : ∀ q ∈ s.queue, okN s s.recvStream q.nonce
  j2 : ∀ rt, okN s s.recvStream (s.nonce rt)
  j3 : ∀ kq ∈ s.wire, okN s kq.1 kq.2.nonce
  -- stream numbers: every one in use is below `nextSid`, and none the sender or the channel holds is above the receiver's
  sidR : s.recvStream < s.nextSid
  sidW : ∀ kq ∈ s.wire, kq.1 < s.nextSid
  sidS : ∀ k, s.senderStream = some k → k ≤ s.recvStream
  sidP : ∀ k, s.pending = some k → k ≤ s.recvStream
  sidH : ∀ k, s.handoff = some k → k = s.recvStream
  -- nothing sent on the receiver's stream yet, hence (E2) nothing answered on it: recorded and queued nonces are empty
  behind : (∀ kq ∈ s.wire, kq.1 ≠ s.recvStream) → (∀ rt, s.nonce rt = "") ∧ (∀ q ∈ s.queue, q.nonce = "")
  -- once something has been sent on the receiver's stream the sender is on that stream or has none, never on an older one
  onRecv : (∃ kq ∈ s.wire, kq.1 = s.recvStream) → (s.senderStream = some s.recvStream ∨ s.senderStream = none)
  -- nothing has been sent on a stream that is still pending or being handed over
  pendR : ∀ k, s.pending = some k → (∀ kq ∈ s.wire, kq.1 ≠ k)
  handR : ∀ k, s.handoff = some k → (∀ kq ∈ s.wire, kq.1 ≠ k)
  -- an older stream is still pending only while the receiver is already handing over a newer one
  pendH : ∀ k, s.pending = some k → k ≠ s.recvStream → s.handoff = some s.recvStream
  -- sender's stream < pending stream < stream in the hand-off
  sLtP : ∀ k p, s.senderStream = some k → s.pending = some p → k < p
  sLtH : ∀ k h, s.senderStream = some k → s.handoff = some h → k < h
  pLtH : ∀ p h, s.pending = some p → s.handoff = some h → p < h

theorem sinv_init : SInv init := by
  constructor <;> simp [init, okN]

/-- the invariant does not read the interest sets, the name table, `closed` or the manager's part, and
survives when requests leave the queue and when requests carrying a current nonce enter it. (Stated for a record update
of `s`: `exact hI.frame …` finds the new values of these fields by unification with the post-state of a step.) -/
theorem SInv.frame {s : St} (hI : SInv s) {queue : List Req}
    (h1 : ∀ q ∈ queue, q ∈ s.queue ∨ ∃ rt, q.nonce = s.nonce rt) {watched table closed cache acc} :
    SInv { s with queue, watched, table, closed, cache, acc } :=
  { hI with
    j1 := fun q hq => (h1 q hq).elim (hI.j1 q) fun ⟨rt, h⟩ => h ▸ hI.j2 rt
    behind := fun hw => ⟨(hI.behind hw).1, fun q hq =>
      (h1 q hq).elim ((hI.behind hw).2 q) fun ⟨rt, h⟩ => h.trans ((hI.behind hw).1 rt)⟩ }

theorem SInv.dropSender {s : St} (hI : SInv s) : SInv { s with senderStream := none } :=
  { hI with sidS := nofun, onRecv := fun _ => .inr rfl, sLtP := nofun, sLtH := nofun }

theorem SInv.dropPending {s : St} (hI : SInv s) : SInv { s with pending := none } :=
  { hI with sidP := nofun, pendR := nofun, pendH := nofun, sLtP := nofun, pLtH := nofun }

/-- `updateAndACK` on the receiver's stream, under E2 (a request of that type is already on that stream) -/
theorem sinv_ack {s : St} (hI : SInv s) {r : Resp} {ws : List Name} (ha : Answers s r ws) (ok : Bool) :
    SInv (ack s r ok s.recvStream) := by
  obtain ⟨kq, hkq, hk1, _⟩ := ha.asked
  have old : ∀ {k n}, okN s k n → okN (ack s r ok s.recvStream) k n := fun h => h.imp id (List.mem_append_left _)
  have j2 : ∀ t, okN (ack s r ok s.recvStream) s.recvStream ((ack s r ok s.recvStream).nonce t) := fun t => by
    rw [ack_nonce]
    split
    · exact .inr (List.mem_append_right _ (List.mem_singleton_self _))
    · exact old (hI.j2 t)
  exact { hI with
    -- the request enqueued carries the nonce just recorded for its type
    j1 := fun q hq => (List.mem_append.mp hq).elim (fun h => old (hI.j1 q h)) fun h => List.mem_singleton.mp h ▸ j2 r.rt
    j2 := j2
    j3 := fun kq' hkq' => old (hI.j3 kq' hkq')
    behind := fun hw => absurd hk1 (hw kq hkq) }

/-- requests go out on stream `k`, which is not above the receiver's, each with a nonce of that stream; `k` is neither
pending nor in the hand-off, and if it is the receiver's stream the sender is on that stream or has none -/
theorem SInv.emit {s : St} (hI : SInv s) {k : Nat} {b : List (Nat × Req)} (hb : ∀ kq ∈ b, kq.1 = k ∧ okN s k kq.2.nonce)
    (hk : k ≤ s.recvStream) (hp : ∀ p, s.pending = some p → k ≠ p) (hh : ∀ h, s.handoff = some h → k ≠ h)
    (hr : k = s.recvStream → s.senderStream = some s.recvStream ∨ s.senderStream = none) :
    SInv { s with wire := s.wire ++ b } :=
  -- a clause about every request on the wire: the old ones have it already, the new ones are on stream `k`
  have wire : ∀ {P : Nat × Req → Prop}, (∀ kq ∈ s.wire, P kq) → (∀ kq ∈ b, P kq) → ∀ kq ∈ s.wire ++ b, P kq :=
    fun h1 h2 kq hkq => (List.mem_append.mp hkq).elim (h1 kq) (h2 kq)
  { hI with
    j3 := wire hI.j3 fun kq h => (hb kq h).1 ▸ (hb kq h).2
    sidW := wire hI.sidW fun kq h => (hb kq h).1 ▸ Nat.lt_of_le_of_lt hk hI.sidR
    behind := fun hw => hI.behind fun kq h => hw kq (List.mem_append_left _ h)
    onRecv := fun ⟨kq, hkq, hk1⟩ => (List.mem_append.mp hkq).elim (fun h => hI.onRecv ⟨kq, h, hk1⟩)
      fun h => hr ((hb kq h).1.symm.trans hk1)
    pendR := fun p hp' => wire (hI.pendR p hp') fun kq h => (hb kq h).1 ▸ hp p hp'
    handR := fun h hh' => wire (hI.handR h hh') fun kq h' => (hb kq h').1 ▸ hh h hh' }

theorem SInv.take {s : St} (hI : SInv s) {k : Nat} (hp : s.pending = some k) :
    SInv { s with pending := none, senderStream := some k } :=
  { hI.dropPending with
    sidS := fun _ hk' => Option.some.inj hk' ▸ hI.sidP k hp
    onRecv := fun ⟨kq, hkq, hk1⟩ => by
      by_cases hkr : k = s.recvStream
      · left; rw [hkr]
      · exact absurd hk1 (hI.handR _ (hI.pendH k hp hkr) kq hkq)
    sLtP := nofun
    sLtH := fun _ h hk' hh => Option.some.inj hk' ▸ hI.pLtH k h hp hh }

/-- the recorded nonces belong to the pending stream: they are current if that stream is the receiver's, and empty if the
receiver is still handing a newer one over -/
theorem SInv.pending_nonce {s : St} (hI : SInv s) {k : Nat} (hp : s.pending = some k) (rt : RType) :
    okN s k (s.nonce rt) := by
  by_cases hkr : k = s.recvStream
  · rw [hkr]; exact hI.j2 rt
  · exact .inl ((hI.behind (hI.handR _ (hI.pendH k hp hkr))).1 rt)

theorem SInv.batch {s : St} (hI : SInv s) {k : Nat} (hp : s.pending = some k) {order : List RType} :
    ∀ kq ∈ order.map (fun rt => (k, mkReq s rt false)), kq.1 = k ∧ okN s k kq.2.nonce := by
  intro kq hkq
  obtain ⟨rt, _, rfl⟩ := List.mem_map.mp hkq
  exact ⟨rfl, hI.pending_nonce hp rt⟩

theorem sinv_step {cfg : Cfg} {s s' : St} {op : Op} (hI : SInv s) (hs : Step cfg s op s') : SInv s' := by
  cases hs with
  | pushUnknown | pushUnwatched => exact hI
  | touch | authFail | subscribeFull | evictFull => exact hI.frame fun _ h => .inl h
  | adoptClosed => exact hI.dropSender.dropPending
  | subscribe | evict =>
    refine hI.frame (fun q h => ?_)
    exact (List.mem_append.mp h).imp id (fun h => ⟨_, congrArg Req.nonce (List.mem_singleton.mp h)⟩)
  | pushNack ha => exact sinv_ack hI ha false
  | pushTable ha | pushUpdate ha => exact (sinv_ack hI ha true).frame fun _ h => .inl h
  | sendNowhere hq => exact hI.frame (fun _ h => .inl (hq ▸ List.mem_cons_of_mem _ h))
  | sendFails hq =>
    exact hI.dropSender.frame (fun _ h => .inl (hq ▸ List.mem_cons_of_mem _ h))
  | @send q rest k hq _ hk =>
    have hqm : q ∈ s.queue := hq ▸ List.mem_cons_self
    -- off the receiver's stream nothing has been answered yet, and what is queued carries the empty nonce
    have hkq : okN s k q.nonce := by
      by_cases hkr : k = s.recvStream
      · rw [hkr]; exact hI.j1 q hqm
      · refine .inl ((hI.behind fun kq hkq hk1 => ?_).2 q hqm)
        rcases hI.onRecv ⟨kq, hkq, hk1⟩ with h | h
        · cases hk.symm.trans h; exact hkr rfl
        · cases hk.symm.trans h
    have hE := hI.emit (k := k) (b := [(k, q)]) (fun kq h => by rw [List.mem_singleton.mp h]; exact ⟨rfl, hkq⟩)
      (hI.sidS k hk) (fun p hp => Nat.ne_of_lt (hI.sLtP k p hk hp)) (fun h hh => Nat.ne_of_lt (hI.sLtH k h hk hh))
      (fun hkr => .inl (hkr ▸ hk))
    exact hE.frame (fun _ h => .inl (hq ▸ List.mem_cons_of_mem _ h))
  | @adoptPartial order _ k hp =>
    exact hI.dropSender.dropPending.emit (fun kq h => hI.batch hp kq (List.mem_of_mem_take h)) (hI.sidP k hp) nofun
      (fun h hh => Nat.ne_of_lt (hI.pLtH k h hp hh)) (fun _ => .inr rfl)
  | @adoptAll order _ k hp =>
    exact (hI.take hp).emit (hI.batch hp) (hI.sidP k hp) nofun (fun h hh => Nat.ne_of_lt (hI.pLtH k h hp hh))
      (fun hkr => .inl (congrArg some hkr))
  | reconnectDrain =>
    -- the new stream `nextSid` is above everything on the wire and everything the sender or the channel holds
    have above : ∀ {k}, k ≤ s.recvStream → k < s.nextSid := fun h => Nat.lt_of_le_of_lt h hI.sidR
    exact { hI with
      j1 := fun _ h => nomatch h
      j2 := fun _ => .inl rfl
      sidR := Nat.lt_succ_self _
      sidW := fun kq hkq => Nat.lt_succ_of_lt (hI.sidW kq hkq)
      sidS := fun k hk => Nat.le_of_lt (above (hI.sidS k hk))
      sidP := fun k hk => Nat.le_of_lt (above (hI.sidP k hk))
      sidH := fun _ hk => (Option.some.inj hk).symm
      behind := fun _ => ⟨fun _ => rfl, fun _ h => nomatch h⟩
      onRecv := fun ⟨kq, hkq, hk⟩ => absurd hk (Nat.ne_of_lt (hI.sidW kq hkq))
      handR := fun _ hk kq hkq => Option.some.inj hk ▸ Nat.ne_of_lt (hI.sidW kq hkq)
      pendH := fun _ _ _ => rfl
      sLtH := fun k _ hk hh2 => Option.some.inj hh2 ▸ above (hI.sidS k hk)
      pLtH := fun p _ hp hh2 => Option.some.inj hh2 ▸ above (hI.sidP p hp) }
  | @publish k hh hp =>
    have hk := hI.sidH k hh
    exact { hI with
      sidP := fun _ hk' => Option.some.inj hk' ▸ Nat.le_of_eq hk
      sidH := nofun
      pendR := fun _ hk' => Option.some.inj hk' ▸ hI.handR k hh
      handR := nofun
      pendH := fun _ hk' hne => absurd (Option.some.inj hk' ▸ hk) hne
      sLtP := fun k' _ hk' hp => Option.some.inj hp ▸ hI.sLtH k' k hk' hh
      sLtH := nofun
      pLtH := nofun }

theorem SInv.of_run {cfg : Cfg} {ops : List Op} {s : St} (h : run cfg init ops = some s) : SInv s :=
  run_induction (P := fun s _ => SInv s) sinv_step (rops := []) sinv_init h

end XdsVerif.Seq
