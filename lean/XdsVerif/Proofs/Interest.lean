import XdsVerif.Proofs.Stream
/-!
# Requests carry the interest set (C03): invariants of every reachable state
-/
namespace XdsVerif.Seq

/-- names of the last request of type `rt` in a list of requests -/
def lastNames (rt : RType) (l : List Req) : Option (List Name) :=
  ((l.filter (fun q => q.rt = rt)).getLast?).map (·.names)

/-- the requests sent on stream `k`, in order -/
def onStream (k : Nat) (w : List (Nat × Req)) : List Req := (w.filter (fun kq => kq.1 = k)).map (·.2)

theorem lastNames_append (rt : RType) (a b : List Req) :
    lastNames rt (a ++ b) = (lastNames rt b).or (lastNames rt a) := by
  unfold lastNames
  rw [List.filter_append, List.getLast?_append, Option.map_or]

theorem lastNames_singleton (rt : RType) (q : Req) :
    lastNames rt [q] = if q.rt = rt then some q.names else none := by
  unfold lastNames
  by_cases h : q.rt = rt <;> simp [List.filter, h]

theorem lastNames_nil (rt : RType) : lastNames rt [] = none := rfl

theorem lastNames_concat (rt : RType) (l : List Req) (q : Req) :
    lastNames rt (l ++ [q]) = if q.rt = rt then some q.names else lastNames rt l := by
  rw [lastNames_append, lastNames_singleton]
  split <;> rfl

/-- requests of one type that all list the same names, at least one of them -/
theorem lastNames_eq_some {rt : RType} {l : List Req} {ns : List Name} (h1 : ∀ q ∈ l, q.rt = rt → q.names = ns)
    (h2 : ∃ q ∈ l, q.rt = rt) : lastNames rt l = some ns := by
  unfold lastNames
  cases h : (l.filter (fun q => q.rt = rt)).getLast? with
  | none =>
    obtain ⟨q, hq, hr⟩ := h2
    cases List.getLast?_eq_none_iff.mp h ▸ List.mem_filter.mpr ⟨hq, decide_eq_true hr⟩
  | some q =>
    have := List.mem_filter.mp (List.mem_of_getLast? h)
    exact congrArg some (h1 q this.1 (of_decide_eq_true this.2))

theorem onStream_append (k : Nat) (a b : List (Nat × Req)) : onStream k (a ++ b) = onStream k a ++ onStream k b := by
  simp [onStream, List.filter_append]

theorem onStream_all (k : Nat) (b : List (Nat × Req)) (h : ∀ kq ∈ b, kq.1 = k) : onStream k b = b.map (·.2) := by
  unfold onStream
  rw [List.filter_eq_self.mpr]
  intro kq hkq; simp [h kq hkq]

theorem onStream_none (k : Nat) (b : List (Nat × Req)) (h : ∀ kq ∈ b, kq.1 ≠ k) : onStream k b = [] := by
  unfold onStream
  rw [List.filter_eq_nil_iff.mpr]
  · rfl
  · intro kq hkq; simp [h kq hkq]

/-- unless the client has been stopped: whenever the queue holds a request of a type, the last such lists the current
interest set -/
def QInv (s : St) : Prop :=
  s.closed = true ∨ ∀ rt ns, lastNames rt s.queue = some ns → s.watched rt = some ns

/-- the last request the control plane has seen need not list the interest set yet: the client has been stopped, a
reconnect is in progress, or the sender is not on the receiver's stream -/
def Stale (s : St) : Prop :=
  s.closed = true ∨ s.handoff.isSome = true ∨ s.pending.isSome = true ∨ s.senderStream ≠ some s.recvStream

/-- on the live stream the last request of every watched type (sent or still queued) lists the interest set -/
def Live (s : St) : Prop :=
  ∀ rt ws, s.watched rt = some ws → lastNames rt (onStream s.recvStream s.wire ++ s.queue) = some ws

structure CInv (s : St) : Prop where
  si : SInv s
  qi : QInv s
  li : Stale s ∨ Live s

theorem cinv_init : CInv init :=
  ⟨sinv_init, .inr (fun _ _ h => nomatch h), .inr (fun _ _ h => nomatch h)⟩

theorem Stale.of_sender {s : St} (h : s.senderStream ≠ some s.recvStream) : Stale s := .inr (.inr (.inr h))

/-- while the sender of an open client is on the receiver's stream, no reconnect is in progress -/
theorem SInv.not_stale {s : St} (hI : SInv s) (hc : s.closed = false) (hk : s.senderStream = some s.recvStream) :
    ¬ Stale s := by
  rintro (h | h | h | h)
  · cases hc.symm.trans h
  · obtain ⟨v, hv⟩ := Option.isSome_iff_exists.mp h
    exact Nat.lt_irrefl _ (hI.sidH v hv ▸ hI.sLtH _ v hk hv)
  · obtain ⟨v, hv⟩ := Option.isSome_iff_exists.mp h
    exact Nat.lt_irrefl _ (Nat.lt_of_lt_of_le (hI.sLtP _ v hk hv) (hI.sidP v hv))
  · exact h hk

/-- a request that lists the new interest set of its type is appended: the last request of that type lists the interest
set again (whatever happens to the fields the invariants do not read; stated for a record update as `SInv.frame` is) -/
theorem enqueue_preserves {s : St} (qi : QInv s) (li : Stale s ∨ Live s) {q : Req} {watched : RType → Option (List Name)}
    (hw : watched q.rt = some q.names) (hwo : ∀ t, q.rt ≠ t → watched t = s.watched t)
    {version nonce table issued cache acc} :
    let s' := { s with queue := s.queue ++ [q], watched, version, nonce, table, issued, cache, acc }
    QInv s' ∧ (Stale s' ∨ Live s') := by
  refine ⟨qi.imp id fun qi t ns h => ?_, li.imp id fun li t ws h => ?_⟩
  · dsimp only at h ⊢
    rw [lastNames_concat] at h
    split at h
    next ht => rw [← ht, hw, h]
    next ht => rw [hwo t ht]; exact qi t ns h
  · dsimp only at h ⊢
    rw [← List.append_assoc, lastNames_concat]
    split
    next ht => rw [← h, ← ht, hw]
    next ht => exact li t ws (hwo t ht ▸ h)

/-- the resubscription batch has a request for every watched type -/
theorem mem_of_isPerm_watchedTypes {s : St} {order : List RType} {rt : RType} {ws : List Name}
    (hperm : isPerm order (watchedTypes s) = true) (hw : s.watched rt = some ws) : rt ∈ order := by
  simp only [isPerm, Bool.and_eq_true, List.all_eq_true] at hperm
  have hin : rt ∈ watchedTypes s := List.mem_filter.mpr ⟨by cases rt <;> decide, by rw [hw]; rfl⟩
  simpa using hperm.1.2 rt hin

theorem QInv.dequeue {s : St} (qi : QInv s) {q : Req} {rest : List Req} (hq : s.queue = q :: rest) {senderStream wire} :
    QInv { s with queue := rest, senderStream, wire } :=
  qi.imp id fun qi rt ns h => qi rt ns (by rw [hq, ← List.singleton_append, lastNames_append, h]; rfl)

theorem cinv_step {cfg : Cfg} {s s' : St} {op : Op} (hI : CInv s) (hs : Step cfg s op s') : CInv s' := by
  suffices h : QInv s' ∧ (Stale s' ∨ Live s') from ⟨sinv_step hI.si hs, h.1, h.2⟩
  have closedCase : ∀ {s1 : St}, s1.closed = true → QInv s1 ∧ (Stale s1 ∨ Live s1) :=
    fun h => ⟨Or.inl h, Or.inl (Or.inl h)⟩
  cases hs with
  | pushUnknown | pushUnwatched | touch => exact ⟨hI.qi, hI.li⟩
  | authFail => exact closedCase rfl
  | subscribeFull hb | evictFull _ _ _ hb => exact closedCase hb.1
  | adoptClosed _ hc => exact closedCase hc
  | subscribe | evict =>
    exact enqueue_preserves hI.qi hI.li (watch_names ..) fun _ ht => if_neg (Ne.symm ht)
  | pushNack ha | pushTable ha | pushUpdate ha =>
    exact enqueue_preserves hI.qi hI.li (watched_eq_names (e := false) ha.watched) fun _ _ => rfl
  | reconnectDrain => exact ⟨.inr (fun _ _ h => nomatch h), .inl (.inr (.inl rfl))⟩
  | publish => exact ⟨hI.qi, .inl (.inr (.inr (.inl rfl)))⟩
  | @sendNowhere _ q rest hq hn =>
    rcases hn with hc | hk
    · exact closedCase hc
    · exact ⟨hI.qi.dequeue hq, .inl (.of_sender fun e => nomatch hk.symm.trans e)⟩
  | sendFails hq => exact ⟨hI.qi.dequeue hq, .inl (.of_sender nofun)⟩
  | @send q rest k hq hncl hk =>
    refine ⟨hI.qi.dequeue hq, ?_⟩
    by_cases hkr : k = s.recvStream
    · subst hkr
      refine .inr fun rt ws hw => ?_
      have := hI.li.resolve_left (hI.si.not_stale hncl hk) rt ws hw
      -- the request moves from the head of the queue to the end of the live stream
      show lastNames rt (onStream s.recvStream (s.wire ++ [(s.recvStream, q)]) ++ rest) = some ws
      rw [onStream_append, onStream_all s.recvStream [(s.recvStream, q)] (by simp)]
      simpa [hq] using this
    · exact .inl (.of_sender fun e => hkr (Option.some.inj (hk.symm.trans e)))
  | adoptPartial => exact ⟨hI.qi, .inl (.of_sender nofun)⟩
  | @adoptAll order upto k hp hncl hperm =>
    refine ⟨hI.qi, ?_⟩
    by_cases hkr : k = s.recvStream
    · subst hkr
      refine .inr fun rt ws hw => ?_
      show lastNames rt (onStream s.recvStream (s.wire ++ order.map (fun rt => (s.recvStream, mkReq s rt false))) ++
        s.queue) = some ws
      -- nothing was sent on the adopted stream before: what is on it is the batch, one request per watched type
      rw [onStream_append, onStream_none _ _ (hI.si.pendR _ hp), List.nil_append,
        onStream_all _ _ (fun kq h => by obtain ⟨_, _, rfl⟩ := List.mem_map.mp h; rfl), List.map_map, lastNames_append]
      cases hq : lastNames rt s.queue with
      | some ns => exact (hI.qi.resolve_left (ne_true_of_eq_false hncl) rt ns hq).symm.trans hw
      | none =>
        refine lastNames_eq_some (fun q hq hrt => ?_)
          ⟨_, List.mem_map.mpr ⟨rt, mem_of_isPerm_watchedTypes hperm hw, rfl⟩, rfl⟩
        obtain ⟨t, _, rfl⟩ := List.mem_map.mp hq
        cases (hrt : t = rt)
        exact mkReq_names s t false ws hw
    · exact .inl (.of_sender fun e => hkr (Option.some.inj e))

theorem CInv.of_run {cfg : Cfg} {ops : List Op} {s : St} (h : run cfg init ops = some s) : CInv s :=
  run_induction (P := fun s _ => CInv s) cinv_step (rops := []) cinv_init h

end XdsVerif.Seq
