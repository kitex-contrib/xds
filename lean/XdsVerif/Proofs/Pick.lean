import XdsVerif.Model.Pick
/-! Helper lemmas for the weighted pick (C09). Cluster `k` owns the draw values from the sum of the weights before it
up to that sum plus its own weight. -/
namespace XdsVerif.Pick

theorem foldl_total (ws : List Nat) (a : Nat) (h : a + ws.sum < W) :
    ws.foldl (fun a w => (a + w) % W) a = a + ws.sum := by
  induction ws generalizing a with
  | nil => rfl
  | cons w ws ih =>
    rw [List.sum_cons, ← Nat.add_assoc] at h
    rw [List.foldl_cons, Nat.mod_eq_of_lt (Nat.lt_of_le_of_lt (Nat.le_add_right _ _) h), ih (a + w) h, List.sum_cons,
      Nat.add_assoc]

theorem total_eq_sum (ws : List Nat) (h : ws.sum < W) : total ws = ws.sum :=
  (foldl_total ws 0 (by omega)).trans (Nat.zero_add _)

/-- without wrap-around the strict scan stops at the cluster whose interval contains the target -/
theorem scan_iff (ws : List Nat) (cur tgt idx j : Nat) (h : cur ≤ tgt) (hW : cur + ws.sum < W) :
    scan true ws cur tgt idx = some j ↔
      ∃ k, j = idx + k ∧ ∃ w, ws[k]? = some w ∧ cur + (ws.take k).sum ≤ tgt ∧ tgt < cur + (ws.take k).sum + w := by
  induction ws generalizing cur idx with
  | nil => simp [scan]
  | cons v ws ih =>
    rw [List.sum_cons, ← Nat.add_assoc] at hW
    simp only [scan, cmp, if_true, Nat.mod_eq_of_lt (Nat.lt_of_le_of_lt (Nat.le_add_right _ _) hW), decide_eq_true_eq]
    split
    · next hv =>
      constructor
      · rintro ⟨rfl⟩
        exact ⟨0, rfl, v, rfl, h, hv⟩
      · rintro ⟨k, rfl, w, -, h1, -⟩
        cases k with
        | zero => rfl
        | succ k => rw [List.take_succ_cons, List.sum_cons] at h1; omega
    · next hv =>
      rw [ih (cur + v) (idx + 1) (Nat.le_of_not_gt hv) hW]
      constructor
      · rintro ⟨k, rfl, w, hk, h1, h2⟩
        exact ⟨k + 1, Nat.succ_add_eq_add_succ idx k, w, hk, Nat.add_assoc cur v _ ▸ h1, Nat.add_assoc cur v _ ▸ h2⟩
      · rintro ⟨k, rfl, w, hk, h1, h2⟩
        cases k with
        | zero => cases hk; exact absurd h2 hv
        | succ k =>
          exact ⟨k, (Nat.succ_add_eq_add_succ idx k).symm, w, hk, by simpa [Nat.add_assoc] using h1,
            by simpa [Nat.add_assoc] using h2⟩

/-- the intervals cover the draw values below the sum -/
theorem interval_cover (ws : List Nat) (t : Nat) (ht : t < ws.sum) :
    ∃ k w, ws[k]? = some w ∧ (ws.take k).sum ≤ t ∧ t < (ws.take k).sum + w := by
  induction ws generalizing t with
  | nil => cases ht
  | cons v ws ih =>
    rw [List.sum_cons] at ht
    rcases Nat.lt_or_ge t v with h | h
    · exact ⟨0, v, rfl, Nat.zero_le _, (Nat.zero_add v).symm ▸ h⟩
    · obtain ⟨d, rfl⟩ := Nat.exists_eq_add_of_le h
      obtain ⟨k, w, hk, h1, h2⟩ := ih d (Nat.lt_of_add_lt_add_left ht)
      exact ⟨k + 1, w, hk, Nat.add_le_add_left h1 v, by rw [List.take_succ_cons, List.sum_cons]; omega⟩

theorem take_sum_add_le (ws : List Nat) (k w : Nat) (hk : ws[k]? = some w) :
    (ws.take k).sum + w ≤ ws.sum := by
  induction ws generalizing k with
  | nil => cases hk
  | cons v ws ih =>
    cases k with
    | zero => cases hk; simp
    | succ k => exact Nat.add_assoc v _ w ▸ Nat.add_le_add_left (ih k hk) v

/-- of `a + w + m` draw values exactly the `w` from `a` on lie in `[a, a + w)` -/
theorem count_interval (a w m : Nat) :
    ((List.range (a + w + m)).filter (fun t => decide (a ≤ t ∧ t < a + w))).length = w := by
  rw [List.range_add, List.range_add, List.filter_append, List.filter_append,
    List.filter_eq_nil_iff.mpr, List.filter_eq_self.mpr, List.filter_eq_nil_iff.mpr]
  · simp
  · simp only [List.mem_map, List.mem_range, decide_eq_true_eq]
    rintro _ ⟨i, _, rfl⟩; omega
  · simp only [List.mem_map, List.mem_range, decide_eq_true_eq]
    rintro _ ⟨i, _, rfl⟩; omega
  · simp only [List.mem_range, decide_eq_true_eq]
    omega

/-- the facts under which the property theorems are stated: strict scan, unsigned draw, guards in place -/
def Good (F : PickFacts) : Prop :=
  F.strict = true ∧ F.draw = .uint32n ∧ F.guards = true ∧ F.scanShape = true

end XdsVerif.Pick
