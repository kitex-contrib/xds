import XdsVerif.Proofs.SeqStep
/-!
# One whole tick of the cleaner (C19)

`Seq.step (.evict rt n now)` is one *firing* iteration of the cleaner's loop. Here the whole tick is a fold of the loop
body over the entries of `m.meta` **in an arbitrary order** (Go's map iteration), and the theorems say what the tick as a
whole does — whatever that order was, and whether or not an entry is listed twice.

Two separate questions: *which* entries fire (`sweep_eq_evictions`: the tick is the eviction, one after the other, of the
entries that are `gone`), and what a series of evictions does to the state (`evictAll_*`, with no clock in sight).
All of it for a client that has not been stopped (`s.closed = false`): after the stop an eviction may find the request
channel full and enqueue nothing.
-/
namespace XdsVerif.Sweep
open XdsVerif.Seq

/-- the cleaner's test on one entry of `m.meta` -/
def expiredB (s : St) (rt : RType) (n : Name) (now : Nat) : Bool :=
  match s.acc rt n with
  | some (some t) => decide (now - t > expire) && !(decide (rt = .lds ∧ n = reserved))
  | _ => false

/-- the loop body on one entry: fires when enabled, otherwise leaves the state alone -/
def visit (cfg : Cfg) (now : Nat) (s : St) (e : RType × Name) : St :=
  match step cfg s (.evict e.1 e.2 now) with
  | some s' => s'
  | none => s

/-- one tick: the entries are visited in the order `es` -/
def sweep (cfg : Cfg) (now : Nat) (s : St) (es : List (RType × Name)) : St := es.foldl (visit cfg now) s

theorem expired_iff (s : St) (rt : RType) (n : Name) (now : Nat) :
    expiredB s rt n now = true ↔ ∃ t, s.acc rt n = some (some t) ∧ now - t > expire ∧ ¬ (rt = .lds ∧ n = reserved) := by
  unfold expiredB
  rcases s.acc rt n with _ | _ | t
  · simp
  · simp
  · simp only [Bool.and_eq_true, decide_eq_true_eq, Bool.not_eq_true', decide_eq_false_iff_not, Option.some.injEq,
      exists_eq_left']

theorem visit_eq (cfg : Cfg) (now : Nat) (s : St) (e : RType × Name) (hq : s.closed = false) :
    visit cfg now s e = if expiredB s e.1 e.2 now then evicted s e.1 e.2 else s := by
  cases h : step cfg s (.evict e.1 e.2 now) with
  | some s' =>
    rw [visit, h]
    cases step_iff.mp h with
    | evict hacc hr he => exact (if_pos ((expired_iff ..).mpr ⟨_, hacc, he, hr⟩)).symm
    | evictFull _ _ _ hb => cases hq.symm.trans hb.1
  | none =>
    rw [visit, h, if_neg]
    intro hx
    obtain ⟨t, hacc, he, hr⟩ := (expired_iff ..).mp hx
    cases h.symm.trans (Step.evict hacc hr he (not_blocked hq)).step_eq

theorem visit_closed (cfg : Cfg) (now : Nat) (s : St) (e : RType × Name) (hq : s.closed = false) :
    (visit cfg now s e).closed = false := by
  rw [visit_eq cfg now s e hq]; split <;> exact hq

theorem sweep_closed (cfg : Cfg) (now : Nat) (es : List (RType × Name)) :
    ∀ s : St, s.closed = false → (sweep cfg now s es).closed = false := by
  induction es with
  | nil => intro s h; exact h
  | cons e es ih => intro s h; exact ih _ (visit_closed cfg now s e h)

/-- an eviction resets the clock of its own entry only -/
theorem expiredB_evicted {s : St} {rt rt' : RType} {n n' : Name} (now : Nat) (h : ¬ (rt = rt' ∧ n = n')) :
    expiredB (evicted s rt' n') rt n now = expiredB s rt n now := by
  rw [expiredB, evicted_acc, if_neg h]; rfl

/-- the entry is listed and its clock says "expired" -/
def gone (s : St) (es : List (RType × Name)) (now : Nat) (rt : RType) (n : Name) : Bool :=
  decide ((rt, n) ∈ es) && expiredB s rt n now

def evictAll (s : St) : List (RType × Name) → St
  | [] => s
  | e :: l => evictAll (evicted s e.1 e.2) l

/-- **which entries fire**: a tick is a series of evictions, and an entry is among them exactly if it is `gone` (an
entry fires at its first visit: from then on it has no clock, and the clocks of the others are as they were; that it
therefore occurs once in `fired` is not stated, nothing needs it) -/
theorem sweep_eq_evictions (cfg : Cfg) (now : Nat) (es : List (RType × Name)) :
    ∀ s : St, s.closed = false →
      ∃ fired, sweep cfg now s es = evictAll s fired ∧ ∀ rt n, fired.contains (rt, n) = gone s es now rt n := by
  induction es with
  | nil => exact fun s _ => ⟨[], rfl, fun _ _ => rfl⟩
  | cons e es ih =>
    intro s hq
    show ∃ fired, sweep cfg now (visit cfg now s e) es = evictAll s fired ∧ _
    rw [visit_eq cfg now s e hq]
    cases hx : expiredB s e.1 e.2 now with
    | true =>
      obtain ⟨fired, hs, hf⟩ := ih (evicted s e.1 e.2) hq    -- (`evicted` leaves `closed` alone)
      refine ⟨e :: fired, hs, fun rt n => ?_⟩
      rw [List.contains_cons, hf, gone, gone]
      by_cases he : (rt, n) = e
      · subst he; simp [hx]
      · rw [expiredB_evicted now (fun ⟨h1, h2⟩ => he (by rw [h1, h2]))]; simp [he]
    | false =>
      obtain ⟨fired, hs, hf⟩ := ih s hq
      refine ⟨fired, hs, fun rt n => ?_⟩
      rw [hf, gone, gone]
      by_cases he : (rt, n) = e
      · subst he; simp [hx]
      · simp [he]

/-! What a series of evictions does. -/

/-- a per-entry field that an eviction clears at its entry and leaves alone elsewhere (the cache, the access records) is
cleared exactly at the listed entries -/
theorem evictAll_field {α : Type} (f : St → RType → Name → Option α)
    (hf : ∀ s rt n t m, f (evicted s rt n) t m = if t = rt ∧ m = n then none else f s t m)
    (l : List (RType × Name)) (s : St) (rt : RType) (n : Name) :
    f (evictAll s l) rt n = if l.contains (rt, n) then none else f s rt n := by
  induction l generalizing s with
  | nil => rfl
  | cons e l ih =>
    rw [evictAll, ih, hf, List.contains_cons]
    cases l.contains (rt, n)
    · simp [Prod.ext_iff]
    · simp

theorem evicted_watched (s : St) (rt : RType) (n : Name) (t : RType) :
    ((evicted s rt n).watched t).getD [] = ((s.watched t).getD []).filter (fun m => !((t, m) == (rt, n))) := by
  show _ = ((s.watched t).getD []).filter (fun m => !(decide (t = rt) && decide (m = n)))
  by_cases h : t = rt
  · subst h; simp [evicted, watch]
  · symm; simp [evicted, watch, h]

theorem evictAll_watched (l : List (RType × Name)) (s : St) (rt : RType) :
    ((evictAll s l).watched rt).getD [] = ((s.watched rt).getD []).filter (fun n => !l.contains (rt, n)) := by
  induction l generalizing s with
  | nil => exact (List.filter_eq_self.mpr fun _ _ => rfl).symm
  | cons e l ih =>
    rw [evictAll, ih, evicted_watched, List.filter_filter]
    exact List.filter_congr fun n _ => by rw [List.contains_cons, Bool.not_or, Bool.and_comm]

theorem not_mem_filter_ne (l : List Name) (n : Name) : n ∉ l.filter (· ≠ n) :=
  fun h => of_decide_eq_true (List.mem_filter.mp h).2 rfl

theorem evicted_queue (s : St) (rt : RType) (n : Name) :
    ∃ q, (evicted s rt n).queue = s.queue ++ [q] ∧ q.rt = rt ∧
      q.names = ((s.watched rt).getD []).filter (· ≠ n) ∧ n ∉ q.names := by
  refine ⟨_, rfl, rfl, ?_⟩
  rw [mkReq_names _ _ _ _ (if_pos rfl)]
  exact ⟨rfl, not_mem_filter_ne _ n⟩

/-- the queue only grows, and for every listed entry what was added holds a request of its type that omits its name -/
theorem evictAll_queue (l : List (RType × Name)) (s : St) :
    ∃ qs, (evictAll s l).queue = s.queue ++ qs ∧
      ∀ rt n, l.contains (rt, n) = true → ∃ q ∈ qs, q.rt = rt ∧ n ∉ q.names := by
  induction l generalizing s with
  | nil => exact ⟨[], (List.append_nil _).symm, fun _ _ h => nomatch h⟩
  | cons e l ih =>
    obtain ⟨q, hq1, hq2, _, hq3⟩ := evicted_queue s e.1 e.2
    obtain ⟨qs, h1, h2⟩ := ih (evicted s e.1 e.2)
    refine ⟨q :: qs, h1.trans (by rw [hq1, List.append_assoc]; rfl), fun rt n h => ?_⟩
    rw [List.contains_cons, Bool.or_eq_true] at h
    rcases h with h | h
    · cases eq_of_beq h
      exact ⟨q, List.mem_cons_self, hq2, hq3⟩
    · obtain ⟨q', hm, hq'⟩ := h2 rt n h
      exact ⟨q', List.mem_cons_of_mem _ hm, hq'⟩

/-! The tick as a whole. -/

/-- **what a tick removes**: exactly the listed entries whose clock says "expired" (idle for longer than the period, not the
reserved listener) lose their cache entry — every other entry keeps its value -/
theorem sweep_cache (cfg : Cfg) (now : Nat) (es : List (RType × Name)) :
    ∀ s : St, s.closed = false → ∀ rt n,
      (sweep cfg now s es).cache rt n = if gone s es now rt n then none else s.cache rt n := by
  intro s hq rt n
  obtain ⟨fired, hs, hf⟩ := sweep_eq_evictions cfg now es s hq
  rw [hs, ← hf]; exact evictAll_field (·.cache) (fun _ _ _ _ _ => rfl) fired s rt n

/-- the same for the access records (`m.meta`) -/
theorem sweep_acc (cfg : Cfg) (now : Nat) (es : List (RType × Name)) :
    ∀ s : St, s.closed = false → ∀ rt n,
      (sweep cfg now s es).acc rt n = if gone s es now rt n then none else s.acc rt n := by
  intro s hq rt n
  obtain ⟨fired, hs, hf⟩ := sweep_eq_evictions cfg now es s hq
  rw [hs, ← hf]; exact evictAll_field (·.acc) (fun _ _ _ _ _ => rfl) fired s rt n

/-- **what a tick unsubscribes**: the interest set of every type loses exactly the removed names -/
theorem sweep_watched (cfg : Cfg) (now : Nat) (es : List (RType × Name)) :
    ∀ s : St, s.closed = false → ∀ rt,
      ((sweep cfg now s es).watched rt).getD [] = ((s.watched rt).getD []).filter (fun n => !gone s es now rt n) := by
  intro s hq rt
  obtain ⟨fired, hs, hf⟩ := sweep_eq_evictions cfg now es s hq
  simp only [hs, ← hf]; exact evictAll_watched fired s rt

/-- the requests of a tick: the queue only grows, by requests that each omit the name whose removal produced them, and
for every removed entry there is one -/
theorem sweep_requests (cfg : Cfg) (now : Nat) (es : List (RType × Name)) :
    ∀ s : St, s.closed = false →
      ∃ qs, (sweep cfg now s es).queue = s.queue ++ qs ∧
        ∀ rt n, gone s es now rt n = true → ∃ q ∈ qs, q.rt = rt ∧ n ∉ q.names := by
  intro s hq
  obtain ⟨fired, hs, hf⟩ := sweep_eq_evictions cfg now es s hq
  simp only [hs, ← hf]; exact evictAll_queue fired s

/-- **order independence**: two ticks that visit the same entries (in any order, with any repetitions) leave the same
cache, the same access records and the same interest sets -/
theorem sweep_order_independent (cfg : Cfg) (now : Nat) (s : St) (hq : s.closed = false)
    (es es' : List (RType × Name)) (hp : ∀ e, e ∈ es ↔ e ∈ es') :
    (∀ rt n, (sweep cfg now s es).cache rt n = (sweep cfg now s es').cache rt n) ∧
    (∀ rt n, (sweep cfg now s es).acc rt n = (sweep cfg now s es').acc rt n) ∧
    (∀ rt, ((sweep cfg now s es).watched rt).getD [] = ((sweep cfg now s es').watched rt).getD []) := by
  have hg : ∀ rt n, gone s es now rt n = gone s es' now rt n :=
    fun rt n => congrArg (· && expiredB s rt n now) (decide_eq_decide.mpr (hp (rt, n)))
  refine ⟨fun rt n => ?_, fun rt n => ?_, fun rt => ?_⟩
  · rw [sweep_cache cfg now es s hq, sweep_cache cfg now es' s hq, hg]
  · rw [sweep_acc cfg now es s hq, sweep_acc cfg now es' s hq, hg]
  · simp only [sweep_watched cfg now _ s hq, hg]

end XdsVerif.Sweep
