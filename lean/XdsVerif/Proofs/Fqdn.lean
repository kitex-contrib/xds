import XdsVerif.Model.Fqdn
/-! Helper lemmas about `splitOn` and its inverse `joinWith`, `hasInfix`, `expand` and `resolveL` (C14, C20). -/
namespace XdsVerif.Fqdn

theorem hasInfix_iff (sub s : Str) : hasInfix sub s = true ↔ sub <:+: s := by
  induction s with
  | nil => simp [hasInfix]
  | cons c cs ih => simp [hasInfix, List.infix_cons_iff, ih]

theorem hasInfix_mid (sub a b : Str) : hasInfix sub (a ++ sub ++ b) = true :=
  (hasInfix_iff ..).mpr (List.infix_append ..)

theorem splitOn_ne_nil (sep : Char) (h : Str) : splitOn sep h ≠ [] := by
  cases h with
  | nil => simp [splitOn]
  | cons c cs =>
    unfold splitOn
    split
    · simp
    · split <;> simp

theorem splitOn_no_sep (sep : Char) (s : Str) (h : sep ∉ s) : splitOn sep s = [s] := by
  induction s with
  | nil => rfl
  | cons c cs ih =>
    simp only [List.mem_cons, not_or] at h
    simp only [splitOn, Ne.symm h.1, if_false, ih h.2]

theorem splitOn_append_sep (sep : Char) (a b : Str) :
    splitOn sep (a ++ sep :: b) = splitOn sep a ++ splitOn sep b := by
  induction a with
  | nil => simp [splitOn]
  | cons c cs ih =>
    by_cases hc : c = sep
    · simp [splitOn, hc, ih]
    · simp only [List.cons_append, splitOn, hc, if_false, ih]
      cases hs : splitOn sep cs with
      | nil => exact absurd hs (splitOn_ne_nil sep cs)
      | cons p ps => simp

/-- Go `strings.Join(parts, sep)` for a single character separator -/
def joinWith (sep : Char) : List Str → Str
  | [] => []
  | [p] => p
  | p :: q :: rest => p ++ sep :: joinWith sep (q :: rest)

theorem join_split (sep : Char) (h : Str) : joinWith sep (splitOn sep h) = h := by
  induction h with
  | nil => rfl
  | cons c cs ih =>
    unfold splitOn
    cases hs : splitOn sep cs with
    | nil => exact absurd hs (splitOn_ne_nil sep cs)
    | cons p ps =>
      rw [hs] at ih
      split
      · next hc => rw [hc]; simp only [joinWith, List.nil_append, ih]
      · cases ps with
        | nil | cons => exact congrArg (c :: ·) ih

/-- the result either contains ".svc." or is the input unchanged -/
theorem expand_cases (ns dom h : Str) :
    hasInfix svc (expand ns dom h) = true ∨ expand ns dom h = h := by
  unfold expand
  split
  · exact .inr rfl
  · simp only
    split
    · exact .inl (hasInfix_mid ..)
    · exact .inl (hasInfix_mid ..)
    · split
      · next hlen h3 =>
        -- `h` is `p0.p1.svc`, so `h ++ "."` ends in ".svc."
        have hj := join_split '.' h
        match hp : splitOn '.' h, hlen with
        | [p0, p1, p2], _ =>
          rw [hp] at hj h3
          cases h3
          exact .inl ((hasInfix_iff ..).mpr ⟨p0 ++ '.' :: p1, dom, by simp [← hj, joinWith, svc]⟩)
      · exact .inr rfl
    · exact .inl (hasInfix_mid ..)

theorem resolveL_eq (ns dom : Str) (t : Table) (h : Str) :
    resolveL ns dom t h =
      match firstIp t (expand ns dom h) with
      | some ip => ip
      | none => (firstIp t h).getD [] := by
  unfold resolveL
  simp only
  cases hf : firstIp t (expand ns dom h) with
  | some ip => rfl
  | none =>
    simp only
    by_cases he : expand ns dom h = h
    · rw [he] at hf
      simp [he, hf]
    · simp only [ne_eq, he, not_false_eq_true, if_true]
      cases firstIp t h <;> rfl

end XdsVerif.Fqdn
