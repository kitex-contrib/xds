import XdsVerif.Model.Flow
/-! Invariants of the request path (`Model/Flow.lean`): lock ownership, the capacity bound, FIFO without loss or
duplication, the fate of every request that left the channel (`Inv`, `Hist`, `Cnt`, `Live`), the epochs that keep a
nonce on its stream (`Ep`), the lock order (`LockOrder`), all bundled in `Reach`; the characterisation of the states in
which nothing can move (`stuck_cases`), the S12 shape (reachable for every capacity, absorbing); and termination: every
step the program takes by itself lowers `work` (`internal_step`, `comes_to_rest`).

`step` is inverted once, into the relation `Step` (`step_iff`); every invariant is then shown to survive by cases on
`Step`, with the guards of the branch in scope and the new state written out, so that a clause about fields the step
leaves alone carries over as it stands (`{ h with … }`). `run_induction` lifts what every step preserves to runs. -/
namespace XdsVerif.Flow

-- (for the lemmas this file proves for its own use; the results stated for the property files write their binders out)
variable {α : Type} {cap : Nat} {s s' : S α} {l : Lbl α}

/-! ### What a completed `sendRequest` does -/

theorem doEnq_of_room (h : s.queue.length < cap) (r : α) (t : Nat) :
    doEnq cap s r t = { s with queue := s.queue ++ [r], enq := s.enq ++ [r], queueEp := s.queueEp ++ [t] } := if_pos h

theorem doEnq_of_full (h : ¬ s.queue.length < cap) (r : α) (t : Nat) : doEnq cap s r t = s := if_neg h

/-- whether it enqueues or gives up, it touches the channel, its history `enq` and its tags `queueEp`, nothing else -/
theorem doEnq_eq (s : S α) (r : α) (t : Nat) :
    doEnq cap s r t = { s with queue := (doEnq cap s r t).queue, enq := (doEnq cap s r t).enq, queueEp := (doEnq cap s r t).queueEp } := by
  by_cases h : s.queue.length < cap
  · rw [doEnq_of_room h]
  · rw [doEnq_of_full h]

@[simp] theorem doEnq_streamCh' {cap : Nat} (s : S α) (r : α) (t : Nat) : (doEnq cap s r t).streamCh = s.streamCh := by
  rw [doEnq_eq]

theorem doEnq_qlen (s : S α) (r : α) (t : Nat) : (doEnq cap s r t).queue.length ≤ s.queue.length + 1 := by
  by_cases h : s.queue.length < cap <;> simp [doEnq, h]

theorem doEnq_len {r : α} {t : Nat} (hb : s.queue.length ≤ cap) : (doEnq cap s r t).queue.length ≤ cap := by
  by_cases h : s.queue.length < cap <;> simp [doEnq, h, hb, Nat.succ_le_of_lt]

theorem doEnq_fifo {r : α} {t : Nat} (hf : s.enq = s.gone ++ s.queue) :
    (doEnq cap s r t).enq = s.gone ++ (doEnq cap s r t).queue := by
  by_cases h : s.queue.length < cap <;> simp [doEnq, h, hf]

theorem doEnq_lenEp {r : α} {t : Nat} (h : s.queueEp.length = s.queue.length) :
    (doEnq cap s r t).queueEp.length = (doEnq cap s r t).queue.length := by
  by_cases hr : s.queue.length < cap <;> simp [doEnq, hr, h]

theorem doEnq_tags {r : α} {t : Nat} (h : ∀ e ∈ s.queueEp, e = s.epoch) (ht : t = s.epoch) :
    ∀ e ∈ (doEnq cap s r t).queueEp, e = s.epoch := by
  by_cases hr : s.queue.length < cap
  · rw [doEnq_of_room hr]
    exact List.forall_mem_append.2 ⟨h, List.forall_mem_singleton.2 ht⟩
  · rw [doEnq_of_full hr]; exact h

/-! ### `step` as a relation -/

/-- `step` read as a relation: one constructor for every branch that returns a state, with the conditions under which
the branch is taken as its hypotheses and the new state as `step` writes it. Where `step` calls `doEnq`, the new state
lists instead the three fields `doEnq` may change (`doEnq_eq`): every other field of it then reduces to the old one. -/
inductive Step (cap : Nat) (s : S α) : Lbl α → S α → Prop
  | pStart {i r} (hp : s.pc i = .idle) : Step cap s (.pStart i r) (setPc s i (.want r))
  | pLock {i r} (hp : s.pc i = .want r) (hc : s.cmu = none) :
      Step cap s (.pLock i) { (setPc s i (.locked r)) with cmu := some (.prod i), lockEp := fun j => if j = i then s.epoch else s.lockEp j,
                                                            lockSeq := s.lockSeq ++ [r] }
  | pEnq {i r} (hp : s.pc i = .locked r) (hcan : canEnq cap s = true) :
      Step cap s (.pEnq i) { s with queue := (doEnq cap s r (s.lockEp i)).queue, enq := (doEnq cap s r (s.lockEp i)).enq,
                                    queueEp := (doEnq cap s r (s.lockEp i)).queueEp, pc := fun j => if j = i then .done else s.pc j, cmu := none }
  | sTakeReq {r rest k} (hs : s.spc = .sel) (hq : s.queue = r :: rest) (hk : s.senderStream = some k) :
      Step cap s .sTakeReq { s with queue := rest, gone := s.gone ++ [r], spc := .sending r k, queueEp := s.queueEp.tail, inflightEp := s.queueEp.headD 0 }
  | sTakeDrop {r rest} (hs : s.spc = .sel) (hq : s.queue = r :: rest) (hk : s.senderStream = none) :
      Step cap s .sTakeReq { s with queue := rest, gone := s.gone ++ [r], dropped := s.dropped ++ [(r, none)], queueEp := s.queueEp.tail }
  | sSendFail {r k} (hs : s.spc = .sending r k) (hns : s.stalled = false) (hd : s.dead k = true) :
      Step cap s .sSendDone { s with spc := .sel, senderStream := none, dropped := s.dropped ++ [(r, some k)] }
  | sSendOk {r k} (hs : s.spc = .sending r k) (hns : s.stalled = false) (hd : s.dead k = false) :
      Step cap s .sSendDone { s with spc := .sel, sent := s.sent ++ [(k, r)], sentEp := s.sentEp ++ [(k, s.inflightEp)] }
  | sTakeStream {k} (hs : s.spc = .sel) (hch : s.streamCh = some k) : Step cap s .sTakeStream { s with streamCh := none, spc := .adoptWait k }
  | sAdoptDead {k batch} (hs : s.spc = .adoptWait k) (hc : s.cmu = none) (hd : s.dead k = true) :
      Step cap s (.sAdopt batch) { s with spc := .sel, senderStream := none }
  | sAdopt {k batch} (hs : s.spc = .adoptWait k) (hc : s.cmu = none) (hd : s.dead k = false) :
      Step cap s (.sAdopt batch) { s with spc := .sel, senderStream := some k, resub := s.resub ++ [(k, batch)] }
  | sExit (hs : s.spc = .sel) (hcl : s.closed = true) : Step cap s .sExit { s with spc := .exited }
  | rResp {r k} (hr : s.rpc = .recv k) : Step cap s (.rResp r) { s with rpc := .ackWant r k }
  | rAckLock {r k} (hr : s.rpc = .ackWant r k) (hc : s.cmu = none) :
      Step cap s .rAckLock { s with rpc := .ackLocked r k, cmu := some .recv, rLockEp := s.epoch, lockSeq := s.lockSeq ++ [r] }
  | rAckEnq {r k} (hr : s.rpc = .ackLocked r k) (hcan : canEnq cap s = true) :
      Step cap s .rAckEnq { s with queue := (doEnq cap s r s.rLockEp).queue, enq := (doEnq cap s r s.rLockEp).enq,
                                   queueEp := (doEnq cap s r s.rLockEp).queueEp, rpc := .recv k, cmu := none }
  | rFail {k} (hr : s.rpc = .recv k) :
      Step cap s .rFail { s with rpc := .reconnWait s.nextSid, nextSid := s.nextSid + 1, dead := fun j => if j = k then true else s.dead j }
  | rDrain {k} (hr : s.rpc = .reconnWait k) (hc : s.cmu = none) :
      Step cap s .rDrain { s with rpc := .publish k, queue := [], gone := s.gone ++ s.queue, drained := s.drained ++ s.queue,
                                  queueEp := [], epoch := s.epoch + 1, streamEp := fun j => if j = k then s.epoch + 1 else s.streamEp j }
  | rPublish {k} (hr : s.rpc = .publish k) (hch : s.streamCh = none) : Step cap s .rPublish { s with rpc := .recv k, streamCh := some k }
  | rAuthFail {k} (hr : s.rpc = .recv k) : Step cap s .rAuthFail { s with rpc := .stopped, closed := true }
  | stall : Step cap s .stall { s with stalled := true }
  | resume : Step cap s .resume { s with stalled := false }

theorem step_iff : step cap s l = some s' ↔ Step cap s l s' := by
  constructor
  · -- one goal for every branch of `step`, in the order of its text, with the conditions of the branch as hypotheses and
    -- `step cap s l` replaced by what the branch returns; the branches that return `none` go with `cases h`.
    -- (`next` names the hypotheses in the order `step` meets them; of a `match` on two terms the second's equation first)
    fun_cases step cap s l
    all_goals intro h; cases h
    next hp => exact .pStart hp
    next hc hp => exact .pLock hp hc
    next hp hcan => rw [doEnq_eq]; exact .pEnq hp hcan
    next hq hs _ hk => exact .sTakeReq hs hq hk
    next hq hs hk => exact .sTakeDrop hs hq hk
    next hs hns hd => exact .sSendFail hs (Bool.eq_false_iff.2 hns) hd
    next hs hns hd => exact .sSendOk hs (Bool.eq_false_iff.2 hns) (Bool.eq_false_iff.2 hd)
    next hch hs => exact .sTakeStream hs hch
    next hc hs hd => exact .sAdoptDead hs hc hd
    next hc hs hd => exact .sAdopt hs hc (Bool.eq_false_iff.2 hd)
    next hs hcl => exact .sExit hs hcl
    next hr => exact .rResp hr
    next hc hr => exact .rAckLock hr hc
    next hr hcan => rw [doEnq_eq]; exact .rAckEnq hr hcan
    next hr => exact .rFail hr
    next hc hr => exact .rDrain hr hc
    next hch hr => exact .rPublish hr hch
    next hr => exact .rAuthFail hr
    · exact .stall
    · exact .resume
  · intro h
    cases h with
    | pEnq hp hcan => simp only [step, hp, hcan]; rw [doEnq_eq]; rfl
    | rAckEnq hr hcan => simp only [step, hr, hcan]; rw [doEnq_eq]; rfl
    | _ => simp [step, *]

theorem run_cons {ls : List (Lbl α)} :
    run cap s (l :: ls) = some s' ↔ ∃ s1, Step cap s l s1 ∧ run cap s1 ls = some s' := by
  simp only [run]
  cases h : step cap s l <;> simp [← step_iff, h]

theorem run_step {s1 : S α} {ls : List (Lbl α)} (h : Step cap s l s1) (hr : run cap s1 ls = some s') :
    run cap s (l :: ls) = some s' :=
  run_cons.2 ⟨s1, h, hr⟩

theorem run_induction {P : S α → Prop} (hstep : ∀ {s l s'}, P s → Step cap s l s' → P s') {ls : List (Lbl α)} :
    ∀ {s s' : S α}, P s → run cap s ls = some s' → P s' := by
  induction ls with
  | nil => intro s s' hP h; cases h; exact hP
  | cons l ls ih =>
    intro s s' hP h
    obtain ⟨s1, h1, h2⟩ := run_cons.1 h
    exact ih (hstep hP h1) h2

structure Inv (cap : Nat) (s : S α) : Prop where
  lockP : ∀ i, s.cmu = some (.prod i) ↔ ∃ r, s.pc i = .locked r
  lockR : s.cmu = some .recv ↔ ∃ r k, s.rpc = .ackLocked r k
  bound : s.queue.length ≤ cap
  fifo  : s.enq = s.gone ++ s.queue
  exitC : s.spc = .exited → s.closed = true
  stopC : s.closed = true → s.rpc = .stopped

theorem inv_init (cap : Nat) : Inv cap (init : S α) := by
  constructor <;> simp [init]

theorem Inv.free (hI : Inv cap s) (hc : s.cmu = none) :
    (∀ i r, s.pc i ≠ .locked r) ∧ ∀ r k, s.rpc ≠ .ackLocked r k :=
  ⟨fun i r hp => (nomatch hc ▸ (hI.lockP i).2 ⟨r, hp⟩), fun r k hr => (nomatch hc ▸ hI.lockR.2 ⟨r, k, hr⟩)⟩

theorem inv_step (hI : Inv cap s) (h : Step cap s l s') : Inv cap s' := by
  cases h with
  | @pStart i r hp =>
    refine { hI with lockP := fun j => ?_ }
    by_cases hj : j = i
    · simp [setPc, hj, hI.lockP i, hp]
    · simp [setPc, hj, hI.lockP j]
  | @pLock i r _ hc =>
    have ⟨hfP, hfR⟩ := hI.free hc
    refine { hI with lockP := fun j => ?_, lockR := by simp [setPc, hfR] }
    by_cases hj : j = i
    · simp [setPc, hj]
    · simp [setPc, hj, hfP, Ne.symm hj]
  | @pEnq i r hp =>
    have hown : s.cmu = some (.prod i) := (hI.lockP i).2 ⟨r, hp⟩
    refine { hI with lockP := fun j => ?_, lockR := by simp [← hI.lockR, hown],
                     bound := doEnq_len hI.bound, fifo := doEnq_fifo hI.fifo }
    by_cases hj : j = i
    · simp [hj]
    · simp [hj, ← hI.lockP j, hown, Ne.symm hj]
  | sTakeReq hs hq | sTakeDrop hs hq =>
    exact { hI with bound := Nat.le_of_succ_le (hq ▸ hI.bound :), fifo := (hq ▸ hI.fifo).trans (List.append_cons ..),
                    exitC := fun h => by simp [hs] at h }
  | sSendFail | sSendOk | sTakeStream | sAdoptDead | sAdopt => exact { hI with exitC := nofun }
  | sExit _ hcl => exact { hI with exitC := fun _ => hcl }
  | rResp hr | rFail hr | rPublish hr =>
    exact { hI with lockR := by simpa [hr] using hI.lockR, stopC := fun hc => by cases hr ▸ hI.stopC hc }
  | rAckLock hr hc =>
    exact { hI with lockP := fun j => by simp [(hI.free hc).1], lockR := by simp, stopC := fun hc => by cases hr ▸ hI.stopC hc }
  | @rAckEnq r k hr =>
    have hown : s.cmu = some .recv := hI.lockR.2 ⟨r, k, hr⟩
    exact { hI with lockP := fun j => by simp [← hI.lockP j, hown], lockR := by simp,
                    bound := doEnq_len hI.bound, fifo := doEnq_fifo hI.fifo,
                    stopC := fun hc => by cases hr ▸ hI.stopC hc }
  | rDrain hr =>
    exact { hI with lockR := by simpa [hr] using hI.lockR, bound := Nat.zero_le _, fifo := hI.fifo.trans (List.append_nil _).symm,
                    stopC := fun hc => by cases hr ▸ hI.stopC hc }
  | rAuthFail hr =>
    exact { hI with lockR := by simpa [hr] using hI.lockR, exitC := fun _ => rfl, stopC := fun _ => rfl }
  | stall | resume => exact { hI with }

/-- every reachable state satisfies the invariant -/
theorem inv_reachable {cap : Nat} {s : S α} {ls : List (Lbl α)} (h : run cap init ls = some s) : Inv cap s :=
  run_induction inv_step (inv_init cap) h

/-- a stuck state has no step of the program (`hi` is `rfl` when the label is written out) -/
theorem Stuck.elim {P : Prop} (hst : Stuck cap s) (h : Step cap s l s') (hi : l.internal = true := by rfl) : P :=
  nomatch (hst l hi).symm.trans (step_iff.2 h)

/-- **Nothing moves by itself only when nothing is under way, or in the S12 shape.** In every state satisfying the
invariant in which the transport is not stalled, if no step of the program is enabled then either the client is
quiescent or the sender waits for the client lock held by a producer that waits for room in the full channel. -/
theorem stuck_cases {cap : Nat} (hcap : 0 < cap) {s : S α} (hI : Inv cap s) (hns : s.stalled = false)
    (hst : Stuck cap s) : Quiescent s ∨ S12 cap s := by
  -- where a `sendRequest` could complete nobody is inside a lock section, so the lock is free and no producer is under way
  have free : canEnq cap s = true → s.cmu = none ∧ ∀ i, s.pc i = .idle ∨ s.pc i = .done := by
    intro hc
    have hm : s.cmu = none := by
      cases hm : s.cmu with
      | none => rfl
      | some hd =>
        cases hd with
        | prod i => obtain ⟨r, hp⟩ := (hI.lockP i).1 hm; exact hst.elim (.pEnq hp hc)
        | recv => obtain ⟨r, k, hr⟩ := hI.lockR.1 hm; exact hst.elim (.rAckEnq hr hc)
    refine ⟨hm, fun i => ?_⟩
    cases hp : s.pc i with
    | idle => exact Or.inl rfl
    | done => exact Or.inr rfl
    | locked r => exact absurd hp ((hI.free hm).1 i r)
    | want r => exact hst.elim (.pLock hp hm)
  cases hs : s.spc with
  | sending r k =>
    cases hd : s.dead k with
    | true => exact hst.elim (.sSendFail hs hns hd)
    | false => exact hst.elim (.sSendOk hs hns hd)
  | exited =>
    have hcl := hI.exitC hs
    have ⟨hm, hp⟩ := free (by simp [canEnq, hcl])
    exact Or.inl ⟨hp, hm, Or.inr hs, Or.inr (hI.stopC hcl)⟩
  | sel =>
    have hq : s.queue = [] := by
      cases hq : s.queue with
      | nil => rfl
      | cons r rest =>
        cases hk : s.senderStream with
        | some k => exact hst.elim (.sTakeReq hs hq hk)
        | none => exact hst.elim (.sTakeDrop hs hq hk)
    have hch : s.streamCh = none := Option.eq_none_iff_forall_ne_some.2 fun k hch => hst.elim (.sTakeStream hs hch)
    have hcl : s.closed = false := Bool.eq_false_iff.2 fun hcl => hst.elim (.sExit hs hcl)
    have ⟨hm, hp⟩ := free (by simp [canEnq, hq, hcap])
    refine Or.inl ⟨hp, hm, Or.inl ⟨hs, hq, hch, hcl⟩, ?_⟩
    cases hr : s.rpc with
    | recv k => exact Or.inl ⟨k, rfl⟩
    | stopped => exact Or.inr rfl
    | ackWant r k => exact hst.elim (.rAckLock hr hm)
    | ackLocked r k => exact absurd hr ((hI.free hm).2 r k)
    | reconnWait k => exact hst.elim (.rDrain hr hm)
    | publish k => exact hst.elim (.rPublish hr hch)
  | adoptWait k =>
    -- the lock is taken, or the sender would adopt; so its holder cannot enqueue: the channel is full and the client running
    right
    have hm : s.cmu ≠ none := fun hm => by
      cases hd : s.dead k with
      | true => exact hst.elim (l := .sAdopt []) (.sAdoptDead hs hm hd)
      | false => exact hst.elim (l := .sAdopt []) (.sAdopt hs hm hd)
    have hcan : canEnq cap s = false := Bool.eq_false_iff.2 fun hc => hm (free hc).1
    simp [canEnq] at hcan
    refine ⟨⟨k, hs⟩, Nat.le_antisymm hI.bound hcan.1, hcan.2, ?_⟩
    cases hmu : s.cmu with
    | none => exact absurd hmu hm
    | some hd =>
      cases hd with
      | prod i => obtain ⟨r, hr⟩ := (hI.lockP i).1 hmu; exact Or.inl ⟨i, r, rfl, hr⟩
      | recv => obtain ⟨r, k', hr⟩ := hI.lockR.1 hmu; exact Or.inr ⟨r, k', rfl, hr⟩

/-- in the S12 shape no step of the program is enabled but the receiver's pending hand-off, and whatever else happens,
short of `close()`, leaves the shape as it is: the lock holder never gets its room, the sender never gets the lock -/
theorem s12_step (h12 : S12 cap s) (h : Step cap s l s') :
    (l.internal = true → l = .rPublish) ∧ (l ≠ .rAuthFail → S12 cap s') := by
  obtain ⟨⟨k, hs⟩, hlen, hcl, hhold⟩ := h12
  have hcan : canEnq cap s = false := by simp [canEnq, hlen, hcl]
  have hm : s.cmu ≠ none := by
    rcases hhold with ⟨i, r, hm, _⟩ | ⟨r, k', hm, _⟩ <;> simp [hm]
  cases h with
  | pLock _ hc | sAdoptDead _ hc | sAdopt _ hc | rAckLock _ hc | rDrain _ hc => exact absurd hc hm
  | pEnq _ hc | rAckEnq _ hc => rw [hcan] at hc; cases hc
  | sTakeReq hs' | sTakeDrop hs' | sSendFail hs' | sSendOk hs' | sTakeStream hs' | sExit hs' => rw [hs] at hs'; cases hs'
  | @pStart j r' hj =>
    -- the lock holder is not `j`, which is idle
    exact ⟨nofun, fun _ => ⟨⟨k, hs⟩, hlen, hcl, hhold.imp_left fun ⟨i, r, hmu, hp⟩ =>
      ⟨i, r, hmu, (if_neg fun e => by rw [e, hj] at hp; cases hp).trans hp⟩⟩⟩
  | rResp hr | rFail hr | rPublish hr =>
    -- the receiver that moves is not the lock holder
    exact ⟨by simp [Lbl.internal], fun _ => ⟨⟨k, hs⟩, hlen, hcl, hhold.imp_right fun ⟨_, _, _, hr'⟩ => nomatch hr.symm.trans hr'⟩⟩
  | rAuthFail => exact ⟨nofun, fun hl => absurd rfl hl⟩
  | stall | resume => exact ⟨nofun, fun _ => ⟨⟨k, hs⟩, hlen, hcl, hhold⟩⟩

/-- conversely, the S12 shape is **absorbing**: whatever happens next — steps of the program (only the receiver's
pending hand-off can still run) or stimuli of the environment, short of `close()` on an authentication failure — the
state stays in the S12 shape: the lock holder never gets its room, the sender never gets the lock. -/
theorem s12_absorbing {cap : Nat} {s s' : S α} {l : Lbl α} (h12 : S12 cap s) (hl : l ≠ .rAuthFail)
    (h : step cap s l = some s') : S12 cap s' :=
  (s12_step h12 (step_iff.1 h)).2 hl

/-- in the S12 shape the only step of the program that can still run is the receiver's pending hand-off -/
theorem s12_only_publish {cap : Nat} {s : S α} {l : Lbl α} (h12 : S12 cap s) (hi : l.internal = true)
    (hne : step cap s l ≠ none) : l = .rPublish := by
  obtain ⟨s', h⟩ := Option.ne_none_iff_exists'.1 hne
  exact (s12_step h12 (step_iff.1 h)).1 hi

theorem run_append {s1 s2 : S α} {a b : List (Lbl α)} (h1 : run cap s a = some s1) (h2 : run cap s1 b = some s2) :
    run cap s (a ++ b) = some s2 := by
  induction a generalizing s with
  | nil => cases h1; exact h2
  | cons l ls ih =>
    obtain ⟨s', hs', h1⟩ := run_cons.1 h1
    exact run_step hs' (ih h1)

/-- the shape of the state while the producers fill the channel behind a published, not yet adopted stream -/
structure Filling (k n : Nat) (s : S α) : Prop where
  cmu : s.cmu = none
  len : s.queue.length = n
  idle : ∀ i, n ≤ i → s.pc i = .idle
  open_ : s.closed = false
  sel : s.spc = .sel
  ch : s.streamCh = some k

def one (r : α) (i : Nat) : List (Lbl α) := [.pStart i r, .pLock i, .pEnq i]

theorem fill_one {k n : Nat} (r : α) (hF : Filling k n s) (hn : n < cap) :
    ∃ s', run cap s (one r n) = some s' ∧ Filling k (n + 1) s' := by
  refine ⟨_, run_step (.pStart (hF.idle n (Nat.le_refl n))) (run_step (.pLock (r := r) (if_pos rfl) hF.cmu)
    (run_step (.pEnq (r := r) (if_pos rfl) (by simp [canEnq, setPc, hF.len, hn])) rfl)), ?_⟩
  refine ⟨rfl, ?_, fun i hi => ?_, hF.open_, hF.sel, hF.ch⟩
  · simp [doEnq, setPc, hF.len, hn]
  · have : i ≠ n := Nat.ne_of_gt hi
    simp [setPc, this, hF.idle i (Nat.le_of_succ_le hi)]

def fill (r : α) : Nat → Nat → List (Lbl α)
  | _, 0 => []
  | n, k + 1 => one r n ++ fill r (n + 1) k

theorem fill_many {j : Nat} (r : α) (k : Nat) : ∀ {n : Nat} {s : S α}, Filling j n s → n + k ≤ cap →
    ∃ s', run cap s (fill r n k) = some s' ∧ Filling j (n + k) s' := by
  induction k with
  | zero => intro n s hF _; exact ⟨s, rfl, hF⟩
  | succ k ih =>
    intro n s hF hle
    obtain ⟨s1, h1, hF1⟩ := fill_one (cap := cap) r hF (by omega)
    obtain ⟨s2, h2, hF2⟩ := ih hF1 (by omega)
    exact ⟨s2, run_append h1 h2, Nat.add_right_comm n 1 k ▸ hF2⟩

/-- a schedule into the S12 shape, for any capacity: the stream fails and the receiver reconnects and publishes the
new stream; `cap` lookups miss and fill the channel (the sender has not run yet); one more lookup misses and waits for
room, holding the client lock; the sender's `select` takes the new stream. -/
def s12Schedule (cap : Nat) (r : α) : List (Lbl α) :=
  [.rFail, .rDrain, .rPublish] ++ (fill r 0 cap ++ [.pStart cap r, .pLock cap, .sTakeStream])

theorem s12_reachable (cap : Nat) (r : α) : ∃ s : S α, run cap init (s12Schedule cap r) = some s ∧ S12 cap s := by
  obtain ⟨s0, h0, hF0⟩ : ∃ s0 : S α, run cap init [.rFail, .rDrain, .rPublish] = some s0 ∧ Filling 2 0 s0 :=
    ⟨_, rfl, rfl, rfl, fun _ _ => rfl, rfl, rfl, rfl⟩    -- the run and every clause of `Filling 2 0` evaluate
  obtain ⟨s1, h1, hF1⟩ := fill_many (cap := cap) r cap hF0 (Nat.le_of_eq (Nat.zero_add cap))
  rw [Nat.zero_add] at hF1
  refine ⟨_, run_append h0 (run_append h1 (run_step (.pStart (hF1.idle cap (Nat.le_refl cap)))
    (run_step (.pLock (r := r) (if_pos rfl) hF1.cmu) (run_step (.sTakeStream hF1.sel hF1.ch) rfl)))), ?_⟩
  exact ⟨⟨2, rfl⟩, hF1.len, hF1.open_, Or.inl ⟨cap, r, rfl, if_pos rfl⟩⟩

/-- the request the sender currently has in `Send` -/
def inflight (s : S α) : List α := match s.spc with | .sending r _ => [r] | _ => []

/-- where the requests went -/
structure Hist (s : S α) : Prop where
  /-- every request that left the channel is on the wire, was dropped for lack of a usable stream, was drained by a reconnect, or is in `Send` -/
  acct  : ∀ r ∈ s.gone, r ∈ s.sent.map (·.2) ∨ r ∈ s.dropped.map (·.1) ∨ r ∈ s.drained ∨ r ∈ inflight s
  /-- what is on the wire (and in `Send`) left the channel, in the same order, nothing twice -/
  order : (s.sent.map (·.2) ++ inflight s).Sublist s.gone
  /-- a request is dropped after a failed `Send` only on a stream that is dead -/
  dropDead : ∀ r k, (r, some k) ∈ s.dropped → s.dead k = true
  /-- a request goes out on the stream the sender holds, and the sender never holds a stream the receiver has not created -/
  sendingOn : ∀ r k, s.spc = .sending r k → s.senderStream = some k

theorem hist_init : Hist (init : S α) := by
  constructor <;> simp [init, inflight]

theorem hist_step (hH : Hist s) (h : Step cap s l s') : Hist s' := by
  have ⟨acct, order, dropDead, sendingOn⟩ := hH
  cases h with
  | @sTakeReq r rest k hs _ hk =>
    simp only [inflight, hs] at acct order
    exact ⟨List.forall_mem_append.2 ⟨fun x hx => (acct x hx).imp_right (.imp_right (.imp_right nofun)),
        fun x hx => .inr (.inr (.inr hx))⟩,
      ((List.sublist_append_left _ _).trans order).append (.refl _), dropDead, fun _ _ h => by cases h; exact hk⟩
  | sTakeDrop =>
    exact ⟨List.forall_mem_append.2 ⟨fun x hx => (acct x hx).imp_right (.imp_left fun a => List.map_append ▸ List.mem_append_left _ a),
        fun x hx => .inr (.inl (List.map_append ▸ List.mem_append_right _ hx))⟩,
      order.trans (List.sublist_append_left _ _), fun r' k hm => dropDead r' k (by simpa using hm), sendingOn⟩
  | @sSendFail r k hs _ hd =>
    simp only [inflight, hs] at acct order
    refine ⟨fun x hx => ?_, ((List.nil_sublist _).append_left _).trans order,
      fun r' k' hm => (List.mem_append.1 hm).elim (dropDead r' k') fun hm => by cases List.mem_singleton.1 hm; exact hd, nofun⟩
    rcases acct x hx with a | a | a | a
    · exact .inl a
    · exact .inr (.inl (List.map_append ▸ List.mem_append_left _ a))
    · exact .inr (.inr (.inl a))
    · exact .inr (.inl (List.map_append ▸ List.mem_append_right _ a))
  | @sSendOk r k hs =>
    simp only [inflight, hs] at acct order
    refine ⟨fun x hx => ?_, by simpa [inflight] using order, dropDead, nofun⟩
    rcases acct x hx with a | a | a | a
    · exact .inl (List.map_append ▸ List.mem_append_left _ a)
    · exact .inr (.inl a)
    · exact .inr (.inr (.inl a))
    · exact .inl (List.map_append ▸ List.mem_append_right _ a)
  | sTakeStream hs | sAdoptDead hs | sAdopt hs | sExit hs =>
    -- the sender had nothing in `Send` and has nothing now
    simp only [inflight, hs] at acct order
    exact ⟨acct, order, dropDead, nofun⟩
  | rFail => exact { hH with dropDead := fun r k hm => by simp [dropDead r k hm] }
  | rDrain =>
    exact ⟨List.forall_mem_append.2 ⟨fun x hx => (acct x hx).imp_right (.imp_right (.imp_left (List.mem_append_left _))),
        fun x hx => .inr (.inr (.inl (List.mem_append_right _ hx)))⟩,
      order.trans (List.sublist_append_left _ _), dropDead, sendingOn⟩
  | _ => exact { hH with }

theorem hist_run {cap : Nat} {s s' : S α} {ls : List (Lbl α)} (hH : Hist s) (h : run cap s ls = some s') : Hist s' :=
  run_induction hist_step hH h

/-- bookkeeping by count: everything that left the channel has exactly one fate -/
def Cnt (s : S α) : Prop :=
  s.gone.length = s.sent.length + s.dropped.length + s.drained.length + (inflight s).length

theorem cnt_init : Cnt (init : S α) := by simp [Cnt, init, inflight]

theorem cnt_step (hC : Cnt s) (h : Step cap s l s') : Cnt s' := by
  unfold Cnt inflight at hC ⊢
  cases h with
  | sTakeReq hs | sTakeDrop hs | sSendFail hs | sSendOk hs | sTakeStream hs | sAdoptDead hs | sAdopt hs | sExit hs =>
    simp +arith [hs, hC]
  | rDrain => simp +arith [hC]
  | _ => exact hC

/-- no stream has failed so far -/
def NoFailure (s : S α) : Prop := ∀ k, s.dead k = false

/-- the shape of every state in which no stream has failed: the sender is on the first stream, nothing was dropped or
drained, no reconnect is under way -/
structure Live (s : S α) : Prop where
  stream : s.senderStream = some 1
  nodrop : s.dropped = []
  nodrain : s.drained = []
  rpc : (∃ k, s.rpc = .recv k) ∨ (∃ r k, s.rpc = .ackWant r k) ∨ (∃ r k, s.rpc = .ackLocked r k) ∨ s.rpc = .stopped
  ch : s.streamCh = none
  spc : s.spc = .sel ∨ (∃ r, s.spc = .sending r 1) ∨ s.spc = .exited

theorem live_init : Live (init : S α) := by constructor <;> simp [init]

theorem live_step (hL : NoFailure s → Live s) (h : Step cap s l s') :
    NoFailure s' → Live s' := by
  intro hn
  -- but for `rFail`, which cannot have happened, the step leaves `dead` alone: `hn` says that no stream had failed before it either
  cases h with
  | @rFail k => have := hn k; simp at this
  | rDrain hr | rPublish hr => have := (hL hn).rpc; simp [hr] at this
  | sTakeStream _ hch => exact nomatch (hL hn).ch.symm.trans hch
  | sAdoptDead hs | sAdopt hs => have := (hL hn).spc; simp [hs] at this
  | @sTakeReq r _ k _ _ hk => cases (hL hn).stream.symm.trans hk; exact { hL hn with spc := .inr (.inl ⟨r, rfl⟩) }
  | sTakeDrop _ _ hk => exact nomatch (hL hn).stream.symm.trans hk
  | @sSendFail _ k _ _ hd => exact nomatch (hn k).symm.trans hd
  | sSendOk => exact { hL hn with spc := .inl rfl }
  | sExit => exact { hL hn with spc := .inr (.inr rfl) }
  | @rResp r k => exact { hL hn with rpc := .inr (.inl ⟨r, k, rfl⟩) }
  | @rAckLock r k => exact { hL hn with rpc := .inr (.inr (.inl ⟨r, k, rfl⟩)) }
  | @rAckEnq r k => exact { hL hn with rpc := .inl ⟨k, rfl⟩ }
  | rAuthFail => exact { hL hn with rpc := .inr (.inr (.inr rfl)) }
  | pStart | pLock | pEnq | stall | resume => exact { hL hn with }

/-- the stream the receiver is concerned with -/
def rstream (s : S α) : Option Nat :=
  match s.rpc with
  | .recv k | .ackWant _ k | .ackLocked _ k | .reconnWait k | .publish k => some k
  | .stopped => none

/-- `k` is a stream whose reconnect has already reset the nonces (it is not the one the receiver is still waiting to drain for) -/
def Drained (s : S α) (k : Nat) : Prop := 1 ≤ k ∧ k < s.nextSid ∧ s.rpc ≠ .reconnWait k

/-- Epochs. `len`–`lockR`: what is queued, and whoever holds the client lock, is tagged with the current epoch.
`newest`, `alive`: the receiver's stream is the newest, and only the newest can be alive; `aliveEp`: a stream that is
alive and has had its reconnect's reset (`Drained`) has the current epoch. `snd`–`sending`, `sent`: every stream the
sender can know of (its own, the one in `streamCh`, the one it adopts or sends on, those on the wire) has had that reset;
`infl`, `sent`: a request in `Send` on a live stream, and every request on the wire, carries its stream's epoch. -/
structure Ep (s : S α) : Prop where
  len    : s.queueEp.length = s.queue.length
  tags   : ∀ e ∈ s.queueEp, e = s.epoch
  lockP  : ∀ i r, s.pc i = .locked r → s.lockEp i = s.epoch
  lockR  : ∀ r k, s.rpc = .ackLocked r k → s.rLockEp = s.epoch
  newest : ∀ k, rstream s = some k → 1 ≤ k ∧ k + 1 = s.nextSid
  alive  : ∀ k, 1 ≤ k → k < s.nextSid → s.dead k = false → k + 1 = s.nextSid
  aliveEp : ∀ k, Drained s k → s.dead k = false → s.streamEp k = s.epoch
  snd    : ∀ k, s.senderStream = some k → Drained s k
  ch     : ∀ k, s.streamCh = some k → Drained s k
  adopt  : ∀ k, s.spc = .adoptWait k → Drained s k
  sending : ∀ r k, s.spc = .sending r k → Drained s k
  infl   : ∀ r k, s.spc = .sending r k → s.dead k = false → s.inflightEp = s.streamEp k
  sent   : ∀ p ∈ s.sentEp, p.2 = s.streamEp p.1 ∧ Drained s p.1

theorem ep_init : Ep (init : S α) where
  len := rfl
  tags := nofun
  lockP := nofun
  lockR := nofun
  newest := fun _ h => by cases h; exact ⟨Nat.le_refl 1, rfl⟩
  alive := fun k h1 h2 _ => congrArg (· + 1) (Nat.le_antisymm (Nat.le_of_lt_succ h2) h1)
  aliveEp := fun _ _ _ => rfl
  snd := fun _ h => by cases h; exact ⟨Nat.le_refl 1, Nat.lt_succ_self 1, nofun⟩
  ch := nofun
  adopt := nofun
  sending := nofun
  infl := nofun
  sent := nofun

/-- the receiver moves from `q` to `p`, states other than `reconnWait`, without leaving its stream: `Drained` is
unaffected, and only the clauses about the receiver itself need a reason -/
theorem ep_rpc {q : RPC α} (hE : Ep s) (hr : s.rpc = q) (p : RPC α) (rl : Nat)
    (hw : ∀ k, q ≠ .reconnWait k) (hw' : ∀ k, p ≠ .reconnWait k) (hl : ∀ r k, p = .ackLocked r k → rl = s.epoch)
    (hrs : ∀ k, rstream { s with rpc := p } = some k → rstream { s with rpc := q } = some k) :
    Ep { s with rpc := p, rLockEp := rl } := by
  subst hr
  have e : Drained { s with rpc := p, rLockEp := rl } = Drained s :=
    funext fun k => propext ⟨fun h => ⟨h.1, h.2.1, hw k⟩, fun h => ⟨h.1, h.2.1, hw' k⟩⟩
  exact { hE with
    lockR := hl
    newest := fun k h => hE.newest k (hrs k h)
    aliveEp := e ▸ hE.aliveEp
    snd := e ▸ hE.snd
    ch := e ▸ hE.ch
    adopt := e ▸ hE.adopt
    sending := e ▸ hE.sending
    sent := e ▸ hE.sent }

/-- back at its `select` the sender remembers no stream but the one it holds -/
theorem ep_sel (hE : Ep s) (ss : Option Nat) (hss : ∀ k, ss = some k → Drained s k) :
    Ep { s with spc := .sel, senderStream := ss } :=
  { hE with snd := hss, adopt := nofun, sending := nofun, infl := nofun }

theorem ep_step (hI : Inv cap s) (hE : Ep s) (h : Step cap s l s') : Ep s' := by
  cases h with
  | @pStart i r =>
    refine { hE with lockP := fun j r' hj => hE.lockP j r' ?_ }
    dsimp only [setPc] at hj
    split at hj
    · cases hj
    · exact hj
  | @pLock i r =>
    exact { hE with lockP := fun j r' hj => ite_eq_left_iff.2 fun e => hE.lockP j r' ((if_neg e).symm.trans hj) }
  | @pEnq i r hp =>
    refine { hE with len := doEnq_lenEp hE.len, tags := doEnq_tags hE.tags (hE.lockP i r hp), lockP := fun j r' hj => hE.lockP j r' ?_ }
    dsimp only at hj
    split at hj
    · cases hj
    · exact hj
  | @sTakeReq r rest k _ hq hk =>
    have hl := hE.len
    rw [hq] at hl
    refine { hE with len := ?_, tags := fun e he => hE.tags e (List.mem_of_mem_tail he), adopt := nofun,
                     sending := fun _ _ h => ?_, infl := fun _ _ h hd => ?_ }
    · simp [hl]
    · cases h; exact hE.snd k hk
    · cases h
      cases hqe : s.queueEp with
      | nil => simp [hqe] at hl
      | cons a l => exact (hE.tags a (by simp [hqe])).trans (hE.aliveEp k (hE.snd k hk) hd).symm
  | sTakeDrop _ hq =>
    exact { hE with len := by simp [hE.len, hq], tags := fun e he => hE.tags e (List.mem_of_mem_tail he) }
  | sSendFail | sAdoptDead => exact { ep_sel hE none nofun with }
  | @sSendOk r k hs _ hd =>
    exact { ep_sel hE s.senderStream hE.snd with
            sent := List.forall_mem_append.2 ⟨hE.sent, List.forall_mem_singleton.2 ⟨hE.infl r k hs hd, hE.sending r k hs⟩⟩ }
  | @sTakeStream k _ hch =>
    exact { hE with ch := nofun, adopt := fun _ h => by cases h; exact hE.ch k hch, sending := nofun, infl := nofun }
  | @sAdopt k _ hs => exact { ep_sel hE (some k) (fun _ h => by cases h; exact hE.adopt k hs) with }
  | sExit => exact { hE with adopt := nofun, sending := nofun, infl := nofun }
  | @rResp r k hr => exact ep_rpc hE hr (.ackWant r k) s.rLockEp nofun nofun nofun fun _ => id
  | @rAckLock r k hr => exact { ep_rpc hE hr (.ackLocked r k) s.epoch nofun nofun (fun _ _ _ => rfl) fun _ => id with }
  | @rAckEnq r k hr =>
    exact { ep_rpc hE hr (.recv k) s.rLockEp nofun nofun nofun fun _ => id with
            len := doEnq_lenEp hE.len, tags := doEnq_tags hE.tags (hE.lockR r k hr) }
  | @rPublish k hr =>
    have hnew := hE.newest k (by simp [rstream, hr])
    exact { ep_rpc hE hr (.recv k) s.rLockEp nofun nofun nofun fun _ => id with
            ch := fun _ h => by cases h; exact ⟨hnew.1, Nat.lt_of_succ_le (Nat.le_of_eq hnew.2), nofun⟩ }
  | rAuthFail hr => exact { ep_rpc hE hr .stopped s.rLockEp nofun nofun nofun nofun with }
  | @rFail k hr =>
    have hnew := hE.newest k (by simp [rstream, hr])
    -- the new stream, which is not drained yet, is the one more that is counted now: `Drained` is unaffected
    have e : Drained { s with rpc := .reconnWait s.nextSid, nextSid := s.nextSid + 1 } = Drained s :=
      funext fun k' => propext
        ⟨fun h => ⟨h.1, Nat.lt_of_le_of_ne (Nat.le_of_lt_succ h.2.1) fun e => h.2.2 (e ▸ rfl), by simp [hr]⟩,
         fun h => ⟨h.1, Nat.lt_succ_of_lt h.2.1, fun e => by cases e; exact Nat.lt_irrefl _ h.2.1⟩⟩
    have was : ∀ {k'}, (if k' = k then true else s.dead k') = false → k' ≠ k ∧ s.dead k' = false := by simp
    exact { hE with
      lockR := nofun
      newest := fun _ h => by cases h; exact ⟨by omega, rfl⟩
      -- an older stream that is still alive would be `k`
      alive := fun k' h1 h2 h3 => congrArg (· + 1) (Nat.eq_of_lt_succ_of_not_lt h2 fun h =>
        (was h3).1 (Nat.add_right_cancel ((hE.alive k' h1 h (was h3).2).trans hnew.2.symm)))
      aliveEp := e ▸ fun k' hD hd => hE.aliveEp k' hD (was hd).2
      snd := e ▸ hE.snd
      ch := e ▸ hE.ch
      adopt := e ▸ hE.adopt
      sending := e ▸ hE.sending
      infl := fun r' k' h hd => hE.infl r' k' h (was hd).2
      sent := e ▸ hE.sent }
  | @rDrain k hr hc =>
    have hnew := hE.newest k (by simp [rstream, hr])
    -- a stream that is alive is the newest, `k`, which is the one that is not drained yet
    have ne : ∀ {k'}, Drained s k' → k' ≠ k := fun hD e => hD.2.2 (e ▸ hr)
    have eq : ∀ {k'}, 1 ≤ k' → k' < s.nextSid → s.dead k' = false → k' = k :=
      fun h1 h2 hd => Nat.add_right_cancel ((hE.alive _ h1 h2 hd).trans hnew.2.symm)
    have up : ∀ {k'}, Drained s k' → Drained { s with rpc := .publish k } k' := fun hD => ⟨hD.1, hD.2.1, nofun⟩
    exact { hE with
      len := rfl
      tags := nofun
      lockP := fun i r' hp => ((hI.free hc).1 i r' hp).elim
      lockR := nofun
      newest := fun _ h => by cases h; exact hnew
      aliveEp := fun k' hD hd => by simp [eq hD.1 hD.2.1 hd]
      snd := fun k h => up (hE.snd k h)
      ch := fun k h => up (hE.ch k h)
      adopt := fun k h => up (hE.adopt k h)
      sending := fun r k h => up (hE.sending r k h)
      infl := fun r' k' h hd => have hD := hE.sending r' k' h; absurd (eq hD.1 hD.2.1 hd) (ne hD)
      sent := fun p hp => ⟨by simp [ne (hE.sent p hp).2, (hE.sent p hp).1], up (hE.sent p hp).2⟩ }
  | stall | resume => exact { hE with }

/-- the tags on the wire are parallel to the requests on the wire -/
def SentPar (s : S α) : Prop := s.sentEp.map (·.1) = s.sent.map (·.1)

theorem sentpar_init : SentPar (init : S α) := by simp [SentPar, init]

theorem sentpar_step (hC : SentPar s) (h : Step cap s l s') : SentPar s' := by
  cases h with
  | sSendOk => simp only [SentPar, List.map_append] at hC ⊢; rw [hC]; rfl
  | _ => exact hC

/-- the request of the producer (or acknowledging receiver) that is inside its lock section, if any -/
def pendingLocked (s : S α) : List α :=
  match s.cmu with
  | some (.prod i) => (match s.pc i with | .locked r => [r] | _ => [])
  | some .recv => (match s.rpc with | .ackLocked r _ => [r] | _ => [])
  | none => []

/-- while the client is running, requests enter the channel in the order in which their producers took the client lock -/
def LockOrder (s : S α) : Prop := s.closed = false → s.lockSeq = s.enq ++ pendingLocked s

theorem lockorder_init : LockOrder (init : S α) := by intro _; simp [init, pendingLocked]

/-- `pendingLocked` looks at the lock, and at its holder only -/
theorem pendingLocked_congr (hc : s'.cmu = s.cmu) (hp : ∀ i, s.cmu = some (.prod i) → s'.pc i = s.pc i)
    (hr : s.cmu = some .recv → s'.rpc = s.rpc) : pendingLocked s = pendingLocked s' := by
  unfold pendingLocked
  rw [hc]
  split
  · next i h => rw [hp i h]
  · next h => rw [hr h]
  · rfl

theorem lockorder_step (hI : Inv cap s) (hL : LockOrder s) (h : Step cap s l s') : LockOrder s' := by
  intro hcl'
  cases h with
  | @pStart i r hp =>
    -- the lock holder, if a producer, is not `i`, which is idle
    refine (hL hcl').trans (congrArg _ (pendingLocked_congr rfl (fun j hj => if_neg fun e => ?_) fun _ => rfl))
    obtain ⟨r', hr'⟩ := (hI.lockP j).1 hj
    rw [e, hp] at hr'; cases hr'
  | pLock _ hc | rAckLock _ hc =>
    have := hL hcl'
    simp only [pendingLocked, hc, List.append_nil] at this
    simp [pendingLocked, setPc, this]
  | @pEnq i r hp hcan =>
    have := hL hcl'
    simp only [pendingLocked, (hI.lockP i).2 ⟨r, hp⟩, hp] at this
    simp [canEnq, show s.closed = false from hcl'] at hcan
    simp [pendingLocked, doEnq, hcan, this]
  | @rAckEnq r k hr hcan =>
    have := hL hcl'
    simp only [pendingLocked, hI.lockR.2 ⟨r, k, hr⟩, hr] at this
    simp [canEnq, show s.closed = false from hcl'] at hcan
    simp [pendingLocked, doEnq, hcan, this]
  | rResp hr | rFail hr | rDrain hr | rPublish hr =>
    -- the receiver that moves is not the lock holder
    refine (hL hcl').trans (congrArg _ (pendingLocked_congr rfl (fun _ _ => rfl) fun hc => ?_))
    obtain ⟨r', k', hr'⟩ := hI.lockR.1 hc
    rw [hr] at hr'; cases hr'
  | rAuthFail => cases hcl'
  | _ => exact hL hcl'

/-- everything known about a reachable state -/
structure Reach (cap : Nat) (s : S α) : Prop where
  inv : Inv cap s
  hist : Hist s
  cnt : Cnt s
  live : NoFailure s → Live s
  ep : Ep s
  par : SentPar s
  lock : LockOrder s

theorem reach_init (cap : Nat) : Reach cap (init : S α) := ⟨inv_init cap, hist_init, cnt_init, fun _ => live_init, ep_init, sentpar_init, lockorder_init⟩

theorem reach_step (hR : Reach cap s) (h : Step cap s l s') : Reach cap s' :=
  ⟨inv_step hR.inv h, hist_step hR.hist h, cnt_step hR.cnt h, live_step hR.live h, ep_step hR.inv hR.ep h, sentpar_step hR.par h, lockorder_step hR.inv hR.lock h⟩

theorem reach_run {ls : List (Lbl α)} (hR : Reach cap s) (h : run cap s ls = some s') : Reach cap s' :=
  run_induction reach_step hR h

theorem reachable {cap : Nat} {s : S α} {ls : List (Lbl α)} (h : run cap init ls = some s) : Reach cap s :=
  reach_run (reach_init cap) h

/-- **No request is lost inside the client**: whatever was put into the channel is still in it, on the wire, in `Send`,
was dropped because the sender had no usable stream, or was drained by a reconnect. -/
theorem no_request_lost {cap : Nat} {s : S α} (hR : Reach cap s) :
    ∀ r ∈ s.enq, r ∈ s.queue ∨ r ∈ s.sent.map (·.2) ∨ r ∈ inflight s ∨ r ∈ s.dropped.map (·.1) ∨ r ∈ s.drained := by
  intro r hr
  rcases List.mem_append.1 (hR.inv.fifo ▸ hr) with h | h
  · exact .inr ((hR.hist.acct r h).imp_right or_rotate.2)
  · exact .inl h

/-- **The wire is a subsequence of what was produced**: same order, nothing twice, nothing invented. -/
theorem wire_subsequence {cap : Nat} {s : S α} (hR : Reach cap s) : (s.sent.map (·.2)).Sublist s.enq := by
  rw [hR.inv.fifo]
  exact List.Sublist.trans (List.Sublist.trans (List.sublist_append_left _ _) hR.hist.order) (List.sublist_append_left _ _)

/-- **On a stream that has not failed, at quiescence the wire carries exactly the requests produced, in order** —
however full the channel was on the way, however long `Send` was stalled. -/
theorem live_wire_eq_enq {cap : Nat} {s : S α} (hR : Reach cap s) (hn : NoFailure s) (hq : s.queue = []) (hi : inflight s = []) :
    s.sent.map (·.2) = s.enq := by
  have hl := hR.live hn
  have ho := hR.hist.order
  have hc := hR.cnt
  rw [Cnt, hl.nodrop, hl.nodrain, hi] at hc
  rw [hi, List.append_nil] at ho
  rw [hR.inv.fifo, hq, List.append_nil]
  exact ho.eq_of_length (by simp [hc])

/-- **Nonces stay on their stream (goroutine level)**: every request on the wire of stream `k` was built by a producer that
took the client lock in the epoch of stream `k` — after the reconnect that created `k` reset the nonces, and before the next
one. (The epoch is where the producer read the nonce it echoes; reset + drain and build + enqueue exclude each other.) -/
theorem wire_epoch {cap : Nat} {s : S α} (hR : Reach cap s) : ∀ p ∈ s.sentEp, p.2 = s.streamEp p.1 :=
  fun p hp => (hR.ep.sent p hp).1

/-- what waits in the channel was built in the current epoch: a reconnect leaves nothing of the previous stream behind -/
theorem queue_epoch {cap : Nat} {s : S α} (hR : Reach cap s) : ∀ e ∈ s.queueEp, e = s.epoch := hR.ep.tags

/-! ## Termination: the program cannot run for ever by itself -/

/-- sum of `f 0 … f (n-1)` -/
def psum (f : Nat → Nat) : Nat → Nat
  | 0 => 0
  | n + 1 => psum f n + f n

theorem psum_congr {f g : Nat → Nat} {n : Nat} (h : ∀ i, i < n → f i = g i) : psum f n = psum g n := by
  induction n with
  | zero => rfl
  | succ n ih =>
    simp only [psum]
    rw [ih fun i hi => h i (Nat.lt_succ_of_lt hi), h n (Nat.lt_succ_self n)]

theorem psum_update {f g : Nat → Nat} {i n : Nat} (hi : i < n) (h : ∀ j, j ≠ i → g j = f j) :
    psum g n + f i = psum f n + g i := by
  induction n with
  | zero => cases hi
  | succ n ih =>
    simp only [psum]
    by_cases hn : i = n
    · rw [psum_congr fun j hj => h j (hn ▸ Nat.ne_of_lt hj), hn, Nat.add_right_comm]
    · rw [h n (Ne.symm hn), Nat.add_right_comm, ih (by omega), Nat.add_right_comm]

/-! The weights make every step of the program pay. A producer goes want 5 → locked 4 → done 0 and may add a queued
request (3): net −1. The sender weighs 0 at its `select` and 1 while busy (`sending`, `adoptWait`), and 1 more in either
case once the client is closed, for the `sExit` it still owes; so taking a request (−3, +1), `Send` returning (−1), taking
a stream out of `streamCh` (−2, +1) and adopting it (−1) all pay. The receiver goes ackWant 5 → ackLocked 4 → recv 0 like
a producer, and reconnWait 4 → publish 3 → recv 0, the 3 paying for the stream it puts into `streamCh` (2). -/

def wP : PPC α → Nat
  | .idle => 0 | .want _ => 5 | .locked _ => 4 | .done => 0

def wS (s : S α) : Nat :=
  match s.spc with
  | .sel => if s.closed then 1 else 0
  | .sending _ _ => if s.closed then 2 else 1
  | .adoptWait _ => if s.closed then 2 else 1
  | .exited => 0

def wR : RPC α → Nat
  | .recv _ => 0 | .ackWant _ _ => 5 | .ackLocked _ _ => 4 | .reconnWait _ => 4 | .publish _ => 3 | .stopped => 0

/-- the work the program still has to do by itself, given that producers `≥ n` are not under way -/
def work (n : Nat) (s : S α) : Nat :=
  psum (fun i => wP (s.pc i)) n + 3 * s.queue.length + (if s.streamCh.isSome then 2 else 0) + wS s + wR s.rpc

/-- producers `≥ n` are not under way -/
def Supp (n : Nat) (s : S α) : Prop := ∀ i, n ≤ i → s.pc i = .idle ∨ s.pc i = .done

theorem supp_congr {n : Nat} (hS : Supp n s) (h : ∀ j, n ≤ j → s'.pc j = s.pc j) : Supp n s' :=
  fun j hj => h j hj ▸ hS j hj

/-- one producer that is under way moves, the sender and the receiver stand still: what counts is its weight and the channel -/
theorem producer_step {n : Nat} {i : Nat} (hS : Supp n s) (ha : ¬ (s.pc i = .idle ∨ s.pc i = .done))
    (hpc : ∀ j, j ≠ i → s'.pc j = s.pc j) (hch : s'.streamCh = s.streamCh) (hspc : s'.spc = s.spc)
    (hcl : s'.closed = s.closed) (hr : s'.rpc = s.rpc)
    (hlt : wP (s'.pc i) + 3 * s'.queue.length < wP (s.pc i) + 3 * s.queue.length) : work n s' < work n s ∧ Supp n s' := by
  have hi : i < n := Nat.lt_of_not_le fun h => ha (hS i h)
  have := psum_update (f := fun j => wP (s.pc j)) (g := fun j => wP (s'.pc j)) hi fun j hj => congrArg wP (hpc j hj)
  refine ⟨?_, supp_congr hS fun j hj => hpc j (Nat.ne_of_gt (Nat.lt_of_lt_of_le hi hj))⟩
  unfold work wS
  rw [hch, hspc, hcl, hr]
  omega

/-- `wS`, busy against idle: one more, whether or not the client has been stopped (the sender then has `sExit` still to do) -/
theorem wS_busy (b : Bool) : (if b then 2 else 1) = (if b then 1 else 0) + 1 := by cases b <;> rfl

theorem internal_step {n : Nat} (hS : Supp n s) (hi : l.internal = true) (h : Step cap s l s') :
    work n s' < work n s ∧ Supp n s' := by
  cases h with
  | pStart | rResp | rFail | rAuthFail | stall | resume => cases hi
  | pLock hp => exact producer_step hS (by simp [hp]) (fun _ hj => if_neg hj) rfl rfl rfl rfl (by simp [hp, wP, setPc])
  | @pEnq i r hp =>
    have := doEnq_qlen (cap := cap) s r (s.lockEp i)
    exact producer_step hS (by simp [hp]) (fun _ hj => if_neg hj) rfl rfl rfl rfl (by simp [hp, wP]; omega)
  | sTakeReq hs hg | sTakeDrop hs hg | sTakeStream hs hg => exact ⟨by simp +arith [work, wS, hs, hg, wS_busy], hS⟩
  | sSendFail hs | sSendOk hs | sAdoptDead hs | sAdopt hs => exact ⟨by simp +arith [work, wS, hs, wS_busy], hS⟩
  | sExit hs hcl => exact ⟨by simp [work, wS, hs, hcl], hS⟩
  | rAckLock hr | rDrain hr => exact ⟨by simp +arith [work, wS, wR, hr], hS⟩
  | @rAckEnq r k hr =>
    have := doEnq_qlen (cap := cap) s r s.rLockEp
    exact ⟨by simp only [work, wS, wR, hr]; omega, hS⟩
  | rPublish hr hch => exact ⟨by simp +arith [work, wS, wR, hr, hch], hS⟩

/-- **every step the program takes by itself is progress**: the remaining work strictly decreases -/
theorem internal_step_decreases {cap n : Nat} {s s' : S α} {l : Lbl α} (hS : Supp n s) (hi : l.internal = true)
    (h : step cap s l = some s') : work n s' < work n s ∧ Supp n s' :=
  internal_step hS hi (step_iff.1 h)

theorem supp_mono {n m : Nat} {s : S α} (h : Supp n s) (hnm : n ≤ m) : Supp m s := fun i hi => h i (Nat.le_trans hnm hi)

/-- whichever producer moves, those beyond it and beyond `n` are where they were -/
theorem supp_step {n : Nat} (hS : Supp n s) (h : Step cap s l s') : ∃ m, Supp m s' := by
  cases h with
  | @pStart i | @pLock i | @pEnq i =>
    exact ⟨max n (i + 1), supp_congr (supp_mono hS (Nat.le_max_left ..)) fun j hj => if_neg (Nat.ne_of_gt (Nat.le_trans (Nat.le_max_right ..) hj))⟩
  | _ => exact ⟨n, hS⟩

theorem supp_init : Supp 0 (init : S α) := fun _ _ => Or.inl rfl

/-- in every reachable state only finitely many producers are under way -/
theorem supp_reachable {ls : List (Lbl α)} {n : Nat} (hS : Supp n s) (h : run cap s ls = some s') : ∃ m, Supp m s' :=
  run_induction (P := fun s => ∃ m, Supp m s) (fun ⟨_, hS⟩ h => supp_step hS h) ⟨n, hS⟩ h

/-- **the program cannot run for ever by itself**: a run of steps of the program alone is no longer than the work that
was outstanding when it started -/
theorem internal_run_bounded {n : Nat} : ∀ (ls : List (Lbl α)) {s s' : S α}, Supp n s → (∀ l ∈ ls, l.internal = true) →
    run cap s ls = some s' → ls.length + work n s' ≤ work n s := by
  intro ls
  induction ls with
  | nil => intro s s' _ _ h; cases h; simp
  | cons l ls ih =>
    intro s s' hS hall h
    obtain ⟨s1, h1, h⟩ := run_cons.1 h
    obtain ⟨hl, hall⟩ := List.forall_mem_cons.1 hall
    obtain ⟨hlt, hS1⟩ := internal_step hS hl h1
    have := ih hS1 hall h
    simp only [List.length_cons]
    omega

/-- **left to itself the client comes to rest, quiescent or in S12** — from every reachable state, every execution of the
program alone is finite (bounded by the outstanding work), and the state in which nothing moves any more is, unless the
transport is stalled, the quiescent state or the S12 deadlock: there is no livelock and no other deadlock -/
theorem comes_to_rest {cap : Nat} (hcap : 0 < cap) {s : S α} (hR : Reach cap s) {n : Nat} (hS : Supp n s)
    (ls : List (Lbl α)) (hall : ∀ l ∈ ls, l.internal = true) {s' : S α} (h : run cap s ls = some s') :
    ls.length ≤ work n s ∧ (s'.stalled = false → Stuck cap s' → Quiescent s' ∨ S12 cap s') :=
  ⟨Nat.le_of_add_right_le (internal_run_bounded ls hS hall h), stuck_cases hcap (reach_run hR h).inv⟩

/-- the same from any state the client reaches from its start: there the producers under way are finitely many -/
theorem comes_to_rest_of_run {cap : Nat} (hcap : 0 < cap) {ls0 : List (Lbl α)} {s : S α} (h0 : run cap init ls0 = some s) :
    ∃ n, ∀ (ls : List (Lbl α)) (s' : S α), (∀ l ∈ ls, l.internal = true) → run cap s ls = some s' →
      ls.length ≤ work n s ∧ (s'.stalled = false → Stuck cap s' → Quiescent s' ∨ S12 cap s') :=
  (supp_reachable supp_init h0).imp fun _ hn ls _ hall h => comes_to_rest hcap (reachable h0) hn ls hall h

/-- **the wire follows the lock order**: on a stream that has not failed, at quiescence the control plane has received the
requests in exactly the order in which their producers held the client lock — the order of the atomic operations of the
sequential model, in which every request lists the interest set as its own operation left it -/
theorem live_wire_eq_lock_order {cap : Nat} {s : S α} (hR : Reach cap s) (hn : NoFailure s) (hq : s.queue = []) (hi : inflight s = [])
    (hc : s.cmu = none) (hcl : s.closed = false) : s.sent.map (·.2) = s.lockSeq := by
  rw [live_wire_eq_enq hR hn hq hi, hR.lock hcl]
  simp [pendingLocked, hc]

end XdsVerif.Flow
